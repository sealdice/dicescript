/- Invariant and refinement lemmas for the sequential ValueMap model (C12) -/
import DS.Model.VMap

namespace DS.Proofs.VMapL
open DS.VMap

variable {α : Type}

structure Inv (s : St α) : Prop where
  dom_nodup : s.dom.Nodup
  dom_iff : ∀ k, k ∈ s.dom ↔ (s.inRead k = true ∨ s.inDirty k = true)
  ent_iff : ∀ k, s.ent k ≠ none ↔ k ∈ s.dom
  nil_dirty : s.dirtyNil = true → ∀ k, s.inDirty k = false
  amended_dirty : s.amended = true → s.dirtyNil = false
  clean_sub : s.amended = false → ∀ k, s.inDirty k = true → s.inRead k = true
  exp_shape : ∀ k, s.ent k = some .expunged → s.inRead k = true ∧ s.dirtyNil = false ∧ s.inDirty k = false
  dirty_sup : s.dirtyNil = false → ∀ k, s.inRead k = true → s.ent k ≠ some .expunged → s.inDirty k = true

theorem inv_init : Inv (init : St α) := by
  constructor <;> simp [init]

theorem upd_same {β} (f : String → β) (k : String) (b : β) : upd f k b k = b := by simp [upd]
theorem upd_other {β} (f : String → β) (k x : String) (b : β) (h : x ≠ k) : upd f k b x = f x := by simp [upd, h]
theorem upd_self {β} (f : String → β) (k : String) : upd f k (f k) = f := by
  funext x
  by_cases hx : x = k
  · rw [hx, upd_same]
  · rw [upd_other f k x _ hx]

theorem slotLoad_val (v : α) : slotLoad (some (Slot.val v)) = some v := rfl

/-! ### the invariant, key by key -/

/-- What `Inv` says about a single key: its membership in `dom`, its entry and its membership in read and
    dirty, given the two flags.  `Inv s` is `dom_nodup`, `amended_dirty` and this for every key, so an
    operation that touches one key has one `KeyInv` to re-establish (`inv_upd`). -/
structure KeyInv (dirtyNil amended : Bool) (inDom : Prop) (e : Option (Slot α)) (r d : Bool) : Prop where
  dom_iff : inDom ↔ (r = true ∨ d = true)
  ent_iff : e ≠ none ↔ inDom
  nil_dirty : dirtyNil = true → d = false
  clean_sub : amended = false → d = true → r = true
  exp_shape : e = some .expunged → r = true ∧ dirtyNil = false ∧ d = false
  dirty_sup : dirtyNil = false → r = true → e ≠ some .expunged → d = true

theorem Inv.key {s : St α} (hi : Inv s) (k : String) :
    KeyInv s.dirtyNil s.amended (k ∈ s.dom) (s.ent k) (s.inRead k) (s.inDirty k) :=
  ⟨hi.dom_iff k, hi.ent_iff k, fun h => hi.nil_dirty h k, fun h => hi.clean_sub h k, hi.exp_shape k,
    fun h => hi.dirty_sup h k⟩

theorem Inv.of_keys {s : St α} (hnd : s.dom.Nodup) (ha : s.amended = true → s.dirtyNil = false)
    (hk : ∀ k, KeyInv s.dirtyNil s.amended (k ∈ s.dom) (s.ent k) (s.inRead k) (s.inDirty k)) : Inv s :=
  ⟨hnd, fun k => (hk k).dom_iff, fun k => (hk k).ent_iff, fun h k => (hk k).nil_dirty h, ha,
    fun h k => (hk k).clean_sub h, fun k => (hk k).exp_shape, fun h k => (hk k).dirty_sup h⟩

/-- entry, dirty membership and `dom` membership change at one key `k`: `Inv` survives if the new values
    satisfy `KeyInv` at `k` -/
theorem inv_upd {s : St α} (hi : Inv s) (k : String) (e : Option (Slot α)) (d : Bool) (dom' : List String)
    (hnd : dom'.Nodup) (hdom : ∀ x, x ≠ k → (x ∈ dom' ↔ x ∈ s.dom))
    (hk : KeyInv s.dirtyNil s.amended (k ∈ dom') e (s.inRead k) d) :
    Inv { s with ent := upd s.ent k e, inDirty := upd s.inDirty k d, dom := dom' } := by
  refine .of_keys hnd hi.amended_dirty fun x => ?_
  by_cases hx : x = k
  · subst hx
    simpa only [upd_same] using hk
  · simpa only [upd_other _ _ _ _ hx, hdom x hx] using hi.key x

/-- `abs` reads `ent` only -/
theorem abs_upd {s t : St α} {k : String} (e : Option (Slot α)) (h : t.ent = upd s.ent k e) :
    abs t = upd (abs s) k (slotLoad e) := by
  funext x
  simp only [abs, h, upd]
  split <;> rfl

/-- `misses` is bookkeeping that `Inv` does not read -/
theorem inv_misses {s : St α} (hi : Inv s) (n : Nat) : Inv { s with misses := n } :=
  ⟨hi.dom_nodup, hi.dom_iff, hi.ent_iff, hi.nil_dirty, hi.amended_dirty, hi.clean_sub, hi.exp_shape, hi.dirty_sup⟩

/-! ### where the live keys are -/

theorem abs_none_of_absent {s : St α} (hi : Inv s) {k : String} (hr : s.inRead k = false)
    (hd : s.inDirty k = false) : abs s k = none := by
  have : s.ent k = none := Classical.byContradiction fun hne => by
    simpa [hr, hd] using (hi.dom_iff k).1 ((hi.ent_iff k).1 hne)
  simp [abs, this, slotLoad]

/-- while no key is only in dirty, every live key is in read -/
theorem abs_none_of_not_read {s : St α} (hi : Inv s) {k : String} (ha : s.amended = false)
    (hr : s.inRead k = false) : abs s k = none :=
  abs_none_of_absent hi hr (Bool.eq_false_iff.2 fun hd => by simpa [hr] using hi.clean_sub ha k hd)

/-- once dirty is allocated, every live key is in dirty: a key of read that is not is expunged -/
theorem abs_none_of_not_dirty {s : St α} (hi : Inv s) {k : String} (hdn : s.dirtyNil = false)
    (hd : s.inDirty k = false) : abs s k = none := by
  cases hr : s.inRead k with
  | false => exact abs_none_of_absent hi hr hd
  | true =>
    have : s.ent k = some .expunged := Classical.byContradiction fun hne => by
      simpa [hd] using hi.dirty_sup hdn k hr hne
    simp [abs, this, slotLoad]

/-- what the locked path of Load and LoadAndDelete reads from dirty -/
theorem dirty_lookup {s : St α} (hi : Inv s) (hdn : s.dirtyNil = false) (k : String) :
    (if s.inDirty k then slotLoad (s.ent k) else none) = abs s k := by
  cases hd : s.inDirty k with
  | true => rfl
  | false => exact (abs_none_of_not_dirty hi hdn hd).symm

theorem not_expunged_of_not_read {s : St α} (hi : Inv s) {k : String} (hr : s.inRead k = false) :
    s.ent k ≠ some .expunged :=
  fun h => by simpa [hr] using (hi.exp_shape k h).1

theorem isExpunged_iff {e : Option (Slot α)} : isExpunged e = true ↔ e = some .expunged := by
  unfold isExpunged
  split <;> simp_all

theorem mem_dom_of_live {s : St α} (hi : Inv s) {k : String} (h : abs s k ≠ none) : k ∈ s.dom :=
  (hi.ent_iff k).1 fun he => h (by simp [abs, he, slotLoad])

/-! ### promote, missLocked -/

theorem inv_promote {s : St α} (hi : Inv s) : Inv (promote s) := by
  refine .of_keys (hi.dom_nodup.filter _) nofun fun k => ?_
  have old := hi.key k
  show KeyInv true false (k ∈ s.dom.filter s.inDirty) (if s.inDirty k then s.ent k else none) (s.inDirty k) false
  rw [List.mem_filter]
  cases hdk : s.inDirty k with
  | false => constructor <;> simp
  | true =>
    -- a key of dirty keeps its entry, which is not expunged
    rw [hdk] at old
    have hk : k ∈ s.dom := old.dom_iff.2 (Or.inr rfl)
    exact ⟨by simp [hk], by simpa [hk] using old.ent_iff, fun _ => rfl, fun _ _ => rfl,
      fun he => (nomatch (old.exp_shape he).2.2), nofun⟩

theorem abs_promote {s : St α} (hi : Inv s) (hd : s.dirtyNil = false) : abs (promote s) = abs s := by
  funext k
  show slotLoad (if s.inDirty k then s.ent k else none) = abs s k
  cases hdk : s.inDirty k with
  | false => exact (abs_none_of_not_dirty hi hd hdk).symm
  | true => rfl

theorem inv_missLocked {s : St α} (hi : Inv s) : Inv (missLocked s) := by
  simp only [missLocked]
  split
  · exact inv_misses hi _
  · exact inv_promote (inv_misses hi _)

theorem abs_missLocked {s : St α} (hi : Inv s) (hd : s.dirtyNil = false) : abs (missLocked s) = abs s := by
  simp only [missLocked]
  split
  · rfl
  · exact abs_promote (inv_misses hi _) hd

/-! ### dirtyLocked -/

theorem inv_dirtyLocked {s : St α} (hi : Inv s) (ha : s.amended = false) : Inv (dirtyLocked s) := by
  unfold dirtyLocked
  cases hd : s.dirtyNil with
  | false => exact hi
  | true =>
    refine .of_keys hi.dom_nodup (fun _ => rfl) fun k => ?_
    have old := hi.key k
    rw [hd, ha, hi.nil_dirty hd k] at old
    show KeyInv false s.amended (k ∈ s.dom) (if s.inRead k then _ else s.ent k) (s.inRead k) (s.inRead k && _)
    rw [ha]
    -- read-only entries: a value goes into dirty as it is, a deleted one is expunged and stays out
    cases hr : s.inRead k <;> rw [hr] at old
    · exact ⟨old.dom_iff, old.ent_iff, nofun, fun _ => nofun, fun he => (nomatch (old.exp_shape he).1),
        fun _ => nofun⟩
    · have hk : k ∈ s.dom := old.dom_iff.2 (Or.inl rfl)
      have hne := old.ent_iff.2 hk
      cases he : s.ent k with
      | none => exact absurd he hne
      | some sl =>
        cases sl with
        | expunged => exact nomatch (old.exp_shape he).2.1
        | nil => constructor <;> simp [hk]
        | val v => constructor <;> simp [hk]

theorem abs_dirtyLocked (s : St α) : abs (dirtyLocked s) = abs s := by
  unfold dirtyLocked
  split
  · rfl
  · funext k
    simp only [abs]
    by_cases hr : s.inRead k = true
    · simp only [hr, if_true]
      cases he : s.ent k with
      | none => rfl
      | some sl => cases sl <;> simp [slotLoad]
    · simp [hr]

theorem dirtyLocked_dirtyNil (s : St α) : (dirtyLocked s).dirtyNil = false := by
  unfold dirtyLocked
  cases hd : s.dirtyNil <;> simp [hd]

theorem dirtyLocked_inRead (s : St α) : (dirtyLocked s).inRead = s.inRead := by
  unfold dirtyLocked; split <;> rfl

theorem dirtyLocked_dom (s : St α) : (dirtyLocked s).dom = s.dom := by
  unfold dirtyLocked; split <;> rfl

theorem dirtyLocked_amended (s : St α) : (dirtyLocked s).amended = s.amended := by
  unfold dirtyLocked; split <;> rfl

/-! ### updates of one key -/

/-- overwriting the entry of a key that has one which is not expunged (by a value, or by the nil tombstone of
    a delete through read) -/
theorem inv_set {s : St α} (hi : Inv s) (k : String) (sl : Slot α) (hsl : sl ≠ .expunged) (hk : k ∈ s.dom)
    (hne : s.ent k ≠ some .expunged) : Inv { s with ent := upd s.ent k (some sl) } := by
  have old := hi.key k
  have := inv_upd hi k (some sl) (s.inDirty k) s.dom hi.dom_nodup (fun _ _ => Iff.rfl)
    ⟨old.dom_iff, by simp [hk], old.nil_dirty, old.clean_sub, fun h => absurd (Option.some.inj h) hsl,
      fun h1 h2 _ => old.dirty_sup h1 h2 hne⟩
  rwa [upd_self] at this

/-- un-expunging: the entry goes back into dirty with the new value -/
theorem inv_unexpunge {s : St α} (hi : Inv s) (k : String) (v : α) (he : s.ent k = some .expunged) :
    Inv { s with ent := upd s.ent k (some (.val v)), inDirty := upd s.inDirty k true } := by
  obtain ⟨hr, hd, _⟩ := hi.exp_shape k he
  have hk : k ∈ s.dom := (hi.dom_iff k).2 (Or.inl hr)
  exact inv_upd hi k _ true s.dom hi.dom_nodup (fun _ _ => Iff.rfl)
    ⟨by simp [hk], by simp [hk], fun h => by simp [hd] at h, fun _ _ => hr, nofun, fun _ _ _ => rfl⟩

/-- removing a key that is not in read (LoadAndDelete's locked path) -/
theorem inv_remove {s : St α} (hi : Inv s) (k : String) (hr : s.inRead k = false) :
    Inv { s with ent := upd s.ent k none, inDirty := upd s.inDirty k false, dom := s.dom.filter (· ≠ k) } :=
  inv_upd hi k none false _ (hi.dom_nodup.filter _) (fun x hx => by simp [hx])
    (by constructor <;> simp [hr])

theorem mem_addDom (dom : List String) (k x : String) : x ∈ addDom dom k ↔ x ∈ dom ∨ x = k := by
  unfold addDom
  split
  · exact ⟨Or.inl, fun h => h.elim id (· ▸ ‹k ∈ dom›)⟩
  · simp

theorem nodup_addDom (dom : List String) (k : String) (h : dom.Nodup) : (addDom dom k).Nodup := by
  unfold addDom
  split
  · exact h
  · rename_i hk
    simpa [List.nodup_append, h] using fun a ha (hak : a = k) => hk (hak ▸ ha)

/-- adding a key, or overwriting it, while dirty holds more than read -/
theorem inv_insert {s : St α} (hi : Inv s) (ha : s.amended = true) (k : String) (v : α) :
    Inv { s with ent := upd s.ent k (some (.val v)), inDirty := upd s.inDirty k true, dom := addDom s.dom k } :=
  inv_upd hi k _ true _ (nodup_addDom _ _ hi.dom_nodup) (fun x hx => by simp [mem_addDom, hx])
    ⟨by simp [mem_addDom], by simp [mem_addDom], fun h => by simp [hi.amended_dirty ha] at h,
      fun h => by simp [ha] at h, nofun, fun _ _ _ => rfl⟩

/-- the "new key" tail: `dirtyLocked` and `amended := true` first unless already amended, then `inv_insert` -/
theorem inv_insertNew {s : St α} (hi : Inv s) (k : String) (v : α) : Inv (insertNew s k v) := by
  unfold insertNew
  cases ha : s.amended with
  | true => exact inv_insert hi ha k v
  | false =>
    have hi1 := inv_dirtyLocked hi ha
    have hi2 : Inv { dirtyLocked s with amended := true } :=
      ⟨hi1.dom_nodup, hi1.dom_iff, hi1.ent_iff, hi1.nil_dirty, fun _ => dirtyLocked_dirtyNil s, nofun,
        hi1.exp_shape, hi1.dirty_sup⟩
    exact inv_insert hi2 rfl k v

theorem abs_insertNew (s : St α) (k : String) (v : α) : abs (insertNew s k v) = upd (abs s) k (some v) := by
  unfold insertNew
  cases s.amended with
  | true => exact abs_upd (s := s) (some (.val v)) rfl
  | false =>
    rw [← abs_dirtyLocked s]
    exact abs_upd (s := { dirtyLocked s with amended := true }) (some (.val v)) rfl

/-! ### each operation branch by branch -/

theorem load_read (s : St α) (k : String) (h : s.inRead k = true) : load s k = (slotLoad (s.ent k), s) := by
  simp [load, h]
theorem load_dirty (s : St α) (k : String) (h : s.inRead k = false) (ha : s.amended = true) :
    load s k = ((if s.inDirty k then slotLoad (s.ent k) else none), missLocked s) := by
  simp [load, h, ha]
theorem load_none (s : St α) (k : String) (h : s.inRead k = false) (ha : s.amended = false) :
    load s k = (none, s) := by
  simp [load, h, ha]

theorem store_fast (s : St α) (k : String) (v : α) (h : s.inRead k = true) (he : isExpunged (s.ent k) = false) :
    store s k v = { s with ent := upd s.ent k (some (.val v)) } := by
  simp [store, h, he]
theorem store_unexp (s : St α) (k : String) (v : α) (h : s.inRead k = true) (he : isExpunged (s.ent k) = true) :
    store s k v = { s with ent := upd s.ent k (some (.val v)), inDirty := upd s.inDirty k true } := by
  simp [store, h, he]
theorem store_dirty (s : St α) (k : String) (v : α) (h : s.inRead k = false) (hd : s.inDirty k = true) :
    store s k v = { s with ent := upd s.ent k (some (.val v)) } := by
  simp [store, h, hd]
theorem store_new (s : St α) (k : String) (v : α) (h : s.inRead k = false) (hd : s.inDirty k = false) :
    store s k v = insertNew s k v := by
  simp [store, h, hd]

theorem los_read_val (s : St α) (k : String) (v x : α) (h : s.inRead k = true) (he : s.ent k = some (.val x)) :
    loadOrStore s k v = ((x, true), s) := by
  simp [loadOrStore, h, he]
theorem los_read_exp (s : St α) (k : String) (v : α) (h : s.inRead k = true) (he : s.ent k = some .expunged) :
    loadOrStore s k v = ((v, false), { s with ent := upd s.ent k (some (.val v)), inDirty := upd s.inDirty k true }) := by
  simp [loadOrStore, h, he]
theorem los_read_nil (s : St α) (k : String) (v : α) (h : s.inRead k = true) (he : s.ent k = some .nil) :
    loadOrStore s k v = ((v, false), { s with ent := upd s.ent k (some (.val v)) }) := by
  simp [loadOrStore, h, he]
theorem los_dirty_val (s : St α) (k : String) (v x : α) (h : s.inRead k = false) (hd : s.inDirty k = true)
    (he : s.ent k = some (.val x)) : loadOrStore s k v = ((x, true), missLocked s) := by
  simp [loadOrStore, h, hd, he]
theorem los_dirty_nil (s : St α) (k : String) (v : α) (h : s.inRead k = false) (hd : s.inDirty k = true)
    (he : s.ent k = some .nil) :
    loadOrStore s k v = ((v, false), missLocked { s with ent := upd s.ent k (some (.val v)) }) := by
  simp [loadOrStore, h, hd, he]
theorem los_new (s : St α) (k : String) (v : α) (h : s.inRead k = false) (hd : s.inDirty k = false) :
    loadOrStore s k v = ((v, false), insertNew s k v) := by
  simp [loadOrStore, h, hd]

theorem lad_read_val (s : St α) (k : String) (x : α) (h : s.inRead k = true) (he : s.ent k = some (.val x)) :
    loadAndDelete s k = (some x, { s with ent := upd s.ent k (some .nil) }) := by
  simp [loadAndDelete, h, he]
theorem lad_read_dead (s : St α) (k : String) (h : s.inRead k = true) (he : ∀ x, s.ent k ≠ some (.val x)) :
    loadAndDelete s k = (none, s) := by
  unfold loadAndDelete
  rw [if_pos h]
  split
  · rename_i x hx; exact absurd hx (he x)
  · rfl
theorem lad_dirty (s : St α) (k : String) (h : s.inRead k = false) (ha : s.amended = true) :
    loadAndDelete s k = ((if s.inDirty k then slotLoad (s.ent k) else none),
      missLocked { s with ent := upd s.ent k none, inDirty := upd s.inDirty k false, dom := s.dom.filter (· ≠ k) }) := by
  simp [loadAndDelete, h, ha]
theorem lad_none (s : St α) (k : String) (h : s.inRead k = false) (ha : s.amended = false) :
    loadAndDelete s k = (none, s) := by
  simp [loadAndDelete, h, ha]

theorem clear_noop (s : St α) (h : lenRead s = 0) (ha : s.amended = false) : clear s = s := by
  simp [clear, h, ha]
theorem clear_wipe (s : St α) (h : ¬ (lenRead s = 0 ∧ s.amended = false)) :
    clear s = { ent := fun _ => none, inRead := fun _ => false, inDirty := fun _ => false,
                dirtyNil := false, amended := false, misses := 0, dom := [] } := by
  unfold clear
  split
  · rename_i hc
    simp only [Bool.and_eq_true, beq_iff_eq, Bool.not_eq_true'] at hc
    exact absurd hc h
  · rfl

theorem range_amended (s : St α) (ha : s.amended = true) :
    range s = (((promote s).dom.filter (promote s).inRead).filterMap
      (fun k => (slotLoad ((promote s).ent k)).map (fun v => (k, v))), promote s) := by
  simp [range, ha]
theorem range_clean (s : St α) (ha : s.amended = false) :
    range s = ((s.dom.filter s.inRead).filterMap (fun k => (slotLoad (s.ent k)).map (fun v => (k, v))), s) := by
  simp [range, ha]

theorem abs_upd_none_of_none (s : St α) (k : String) (h : abs s k = none) : upd (abs s) k none = abs s := by
  rw [← h, upd_self]

end DS.Proofs.VMapL
