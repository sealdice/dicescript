/-
  The static gating check in the form the kernel evaluates on the regenerated grammar.
  `chk` / `dead` (PegGate.lean) are the specification `gate_sound` is proved against; evaluated as they stand they recompute `dead`
  below every node, look actions up by index in an array literal and need the set of enterable rules before they can start.
  `scan` computes both answers for a node in one pass from tables held as bit sets, `enterable` finds the greatest set of rules
  that pass relative to itself by iterating `pass` until nothing changes, and `gateOK_sound` hands `gate_sound` its hypotheses.
-/
import DS.Proofs.PegGate

namespace DS.Peg

/-- bit `i + k` of the result is `p` of the `k`-th element -/
def bitsFrom {α} (p : α → Bool) : List α → Nat → Nat
  | [], _ => 0
  | x :: r, i => (if p x then 1 <<< i else 0) ||| bitsFrom p r (i + 1)

theorem testBit_bitsFrom {α} (p : α → Bool) : ∀ (l : List α) (i j : Nat),
    (bitsFrom p l i).testBit j = (decide (i ≤ j) && (l[j - i]?.map p).getD false)
  | [], i, j => by simp [bitsFrom]
  | x :: r, i, j => by
    rw [bitsFrom, Nat.testBit_or, testBit_bitsFrom p r (i + 1) j]
    have h1 : (if p x then 1 <<< i else 0).testBit j = (p x && decide (i = j)) := by
      split <;> simp [Nat.one_shiftLeft, Nat.testBit_two_pow, *]
    rw [h1]
    rcases Nat.lt_trichotomy i j with h | rfl | h
    · have e : j - i = (j - (i + 1)) + 1 := by omega
      have n1 : ¬ i = j := by omega
      have n2 : i ≤ j := by omega
      have n3 : i + 1 ≤ j := by omega
      simp [e, n1, n2, n3]
    · have n3 : ¬ i + 1 ≤ i := by omega
      simp [n3]
    · have n1 : ¬ i = j := by omega
      have n2 : ¬ i ≤ j := by omega
      have n3 : ¬ i + 1 ≤ j := by omega
      simp [n1, n2, n3]

theorem testBit_bitsFrom_toList {α} [Inhabited α] (p : α → Bool) (xs : Array α) (a : Nat) :
    (bitsFrom p xs.toList 0).testBit a = (decide (a < xs.size) && p xs[a]!) := by
  rw [testBit_bitsFrom]
  by_cases h : a < xs.size <;> simp [h]

/-- the set of the numbers in `l` -/
def bitsOf (l : List Nat) : Nat := l.foldr (fun i m => 1 <<< i ||| m) 0

theorem testBit_bitsOf (i : Nat) : ∀ l : List Nat, (bitsOf l).testBit i = l.contains i
  | [] => by simp [bitsOf]
  | j :: l => by
    rw [bitsOf, List.foldr_cons, Nat.testBit_or, ← bitsOf, testBit_bitsOf i l]
    simp [Nat.one_shiftLeft, Nat.testBit_two_pow, eq_comm]

/-- the tables one pass reads, as bit sets: which actions are guards / safe, the guard ids, which rules may be entered -/
structure Tab where
  guard : Nat
  safe : Nat
  ids : Nat
  ok : Nat
  nrules : Nat

mutual
/-- `(dead e, chk e)` in one pass -/
def scan (t : Tab) : PExpr → Bool × Bool
  | .seq i es => match scanSeq t es with
    | (d, c) => (d, (t.ids.testBit i == d) && c)
  | .choice i es => match scanAll t es with
    | (d, c) => (d, (t.ids.testBit i == d) && c)
  | .action i a e => match scan t e with
    | (d, c) => (d, (t.ids.testBit i == d) && (d || t.safe.testBit a) && c)
  | .code i a _ => (false, !t.ids.testBit i && t.safe.testBit a)
  | .andCode i a => (t.guard.testBit a, (t.ids.testBit i == t.guard.testBit a) && t.safe.testBit a)
  | .and_ i e | .plus i e | .labeled i _ _ e => match scan t e with
    | (d, c) => (d, (t.ids.testBit i == d) && c)
  | .andLogical i e | .not_ i e | .star i e | .opt i e => (false, !t.ids.testBit i && (scan t e).2)
  | .any i | .lit i _ _ | .cls i _ _ _ _ _ => (false, !t.ids.testBit i)
  | .ref i idx => (false, !t.ids.testBit i && t.ok.testBit idx && decide (idx < t.nrules))
/-- `(deadAny es, chkSeq es)` -/
def scanSeq (t : Tab) : List PExpr → Bool × Bool
  | [] => (false, true)
  | e :: r => match scan t e with
    | (true, c) => (true, c)
    | (false, c) => match scanSeq t r with
      | (d, c2) => (d, c && c2)
/-- `(deadAll es, chkAll es)` -/
def scanAll (t : Tab) : List PExpr → Bool × Bool
  | [] => (true, true)
  | e :: r => match scan t e, scanAll t r with
    | (d1, c1), (d2, c2) => (d1 && d2, c1 && c2)
end

/-- what the tables have to say for `scan` to be right about `chk ge g ok` -/
structure Tab.Agrees (t : Tab) (ge : GEnv) (g : Gate) (ok : Array Bool) : Prop where
  guard : ∀ a, t.guard.testBit a = isGuardAct ge g a
  safe : ∀ a, t.safe.testBit a = true → actSafe ge g a = true
  ids : ∀ i, t.ids.testBit i = g.guardIds.contains i
  ok : ∀ i, i < t.nrules → t.ok.testBit i = true → ok[i]! = true
  nrules : t.nrules = ge.nrules

mutual
theorem scan_sound {t : Tab} {ge : GEnv} {g : Gate} {ok : Array Bool} (h : t.Agrees ge g ok) :
    ∀ e, (scan t e).1 = dead ge g e ∧ ((scan t e).2 = true → chk ge g ok e = true)
  | .seq i es => by
    obtain ⟨hd, hc⟩ := scanSeq_sound h es
    simp only [scan, dead, chk, ← hd, h.ids]
    exact ⟨trivial, by simpa using fun a b => ⟨a, hc b⟩⟩
  | .choice i es => by
    obtain ⟨hd, hc⟩ := scanAll_sound h es
    simp only [scan, dead, chk, ← hd, h.ids]
    exact ⟨trivial, by simpa using fun a b => ⟨a, hc b⟩⟩
  | .action i a e => by
    obtain ⟨hd, hc⟩ := scan_sound h e
    simp only [scan, dead, chk, ← hd, h.ids]
    refine ⟨trivial, ?_⟩
    simp only [Bool.and_eq_true, Bool.or_eq_true]
    exact fun ⟨⟨a1, a2⟩, a3⟩ => ⟨⟨a1, a2.imp_right (h.safe a)⟩, hc a3⟩
  | .code i a _ => by
    simp only [scan, dead, chk, h.ids]
    exact ⟨trivial, by simpa using fun a b => ⟨a, h.safe _ b⟩⟩
  | .andCode i a => by
    simp only [scan, dead, chk, h.ids, h.guard]
    exact ⟨trivial, by simpa using fun a b => ⟨a, h.safe _ b⟩⟩
  | .and_ i e | .plus i e | .labeled i _ _ e => by
    obtain ⟨hd, hc⟩ := scan_sound h e
    simp only [scan, dead, chk, ← hd, h.ids]
    exact ⟨trivial, by simpa using fun a b => ⟨a, hc b⟩⟩
  | .andLogical i e | .not_ i e | .star i e | .opt i e => by
    simp only [scan, dead, chk, h.ids]
    exact ⟨trivial, by simpa using fun a b => ⟨a, (scan_sound h e).2 b⟩⟩
  | .any i | .lit i _ _ | .cls i _ _ _ _ _ => by simp [scan, dead, chk, h.ids]
  | .ref i idx => by
    simp only [scan, dead, chk, h.ids, h.nrules]
    refine ⟨trivial, ?_⟩
    simp only [Bool.and_eq_true, decide_eq_true_eq]
    exact fun ⟨⟨a1, a2⟩, a3⟩ => ⟨⟨a1, h.ok idx (h.nrules ▸ a3) a2⟩, a3⟩
theorem scanSeq_sound {t : Tab} {ge : GEnv} {g : Gate} {ok : Array Bool} (h : t.Agrees ge g ok) :
    ∀ es, (scanSeq t es).1 = deadAny ge g es ∧ ((scanSeq t es).2 = true → chkSeq ge g ok es = true)
  | [] => ⟨rfl, fun _ => rfl⟩
  | e :: r => by
    obtain ⟨hd, hc⟩ := scan_sound h e
    obtain ⟨hd', hc'⟩ := scanSeq_sound h r
    simp only [scanSeq, deadAny, chkSeq, ← hd, ← hd']
    revert hc
    rcases scan t e with ⟨_ | _, c⟩ <;> intro hc
    · exact ⟨rfl, by simpa using fun a b => ⟨hc a, hc' b⟩⟩
    · exact ⟨rfl, by simpa using hc⟩
theorem scanAll_sound {t : Tab} {ge : GEnv} {g : Gate} {ok : Array Bool} (h : t.Agrees ge g ok) :
    ∀ es, (scanAll t es).1 = deadAll ge g es ∧ ((scanAll t es).2 = true → chkAll ge g ok es = true)
  | [] => ⟨rfl, fun _ => rfl⟩
  | e :: r => by
    obtain ⟨hd, hc⟩ := scan_sound h e
    obtain ⟨hd', hc'⟩ := scanAll_sound h r
    simp only [scanAll, deadAll, chkAll, ← hd, ← hd']
    exact ⟨trivial, by simpa using fun a b => ⟨hc a, hc' b⟩⟩
end

/-- `isGuardAct` as a test on the action itself -/
def isGuard (g : Gate) (a : Act) : Bool :=
  match a.pred with
  | .flag f neg => f == g.flag && neg == g.blocked && a.effs.isEmpty
  | _ => false

def tabOf (ge : GEnv) (g : Gate) (ok : Nat) : Tab :=
  { guard := bitsFrom (isGuard g) ge.acts.toList 0, safe := bitsFrom (fun a => a.effs.all (effSafe ge g)) ge.acts.toList 0,
    ids := bitsOf g.guardIds, ok := ok, nrules := ge.nrules }

theorem tabOf_agrees (ge : GEnv) (g : Gate) (m : Nat) :
    (tabOf ge g m).Agrees ge g (Array.ofFn (n := ge.nrules) fun i => m.testBit i) where
  guard a := by
    have e : isGuardAct ge g a = isGuard g ge.acts[a]! := rfl
    rw [e, tabOf, testBit_bitsFrom_toList]
    by_cases h : a < ge.acts.size <;> simp [h]
    rfl
  safe a := by
    rw [tabOf, testBit_bitsFrom_toList, actSafe]
    simp
  ids i := testBit_bitsOf i _
  ok i hi := by simp [tabOf] at hi ⊢; simp [hi]
  nrules := rfl

/-- one refinement round: of the rules in `m`, those that pass the check relative to `m` -/
def pass (t : Tab) (rules : List PExpr) (m : Nat) : Nat :=
  m &&& bitsFrom (fun e => (scan { t with ok := m } e).2) rules 0

/-- `pass` iterated from `m` until nothing changes -/
def stable (t : Tab) (rules : List PExpr) : Nat → Nat → Option Nat
  | 0, _ => none
  | n+1, m => if pass t rules m == m then some m else stable t rules n (pass t rules m)

theorem pass_of_stable {t : Tab} {rules : List PExpr} {m' : Nat} : ∀ (n m : Nat), stable t rules n m = some m' → pass t rules m' = m'
  | 0, _, h => by cases h
  | n+1, m, h => by
    simp only [stable] at h
    split at h
    · cases h; exact beq_iff_eq.mp ‹_›
    · exact pass_of_stable n _ h

/-- the static check as it is evaluated: start from all rules, refine until stable (every round but the last drops a rule, so
    `size + 1` rounds always suffice), and ask that rule 0 is still there -/
def gateOK (ge : GEnv) (rules : Array PExpr) (g : Gate) : Bool :=
  match stable (tabOf ge g 0) rules.toList (rules.size + 1) (2 ^ rules.size - 1) with
  | some m => m.testBit 0
  | none => false

theorem gateOK_sound {ge : GEnv} {rules : Array PExpr} {g : Gate} (h : gateOK ge rules g = true) (hn : ge.nrules = rules.size) :
    ∃ ok : Array Bool, (∀ i, i < rules.size → ok[i]! = true → chk ge g ok rules[i]! = true) ∧ chk ge g ok rules[0]! = true := by
  unfold gateOK at h
  split at h
  · rename_i m hst
    have key : ∀ i, m.testBit i = true → i < rules.size ∧ chk ge g (Array.ofFn (n := ge.nrules) fun i => m.testBit i) rules[i]! = true := by
      intro i hi
      have hp := congrArg (·.testBit i) (pass_of_stable _ _ hst)
      simp only [pass, Nat.testBit_and, hi, Bool.true_and, testBit_bitsFrom_toList, Bool.and_eq_true, decide_eq_true_eq] at hp
      exact ⟨hp.1, (scan_sound (tabOf_agrees ge g m) _).2 hp.2⟩
    refine ⟨_, fun i hi hok => (key i ?_).2, (key 0 h).2⟩
    simpa [hn, hi] using hok
  · cases h

end DS.Peg
