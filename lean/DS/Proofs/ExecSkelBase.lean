/- C08: the model VM's `exec` refines the verifier's skeleton — primitives and callee lemmas -/
import DS.Model.VerifyRun
import DS.Props.C01
import DS.Proofs.FrameLemmas
namespace DS.VM
open DS.Verify

/-- every panic site of `exec` that stands for a malformed program (what C08 forbids) -/
def structSites : List String :=
  ["index out of range [-1]@stackPop", "index out of range [-1]@store", "index out of range [-1]@diceStates",
   "index out of range [-1]@push.def_expr details", "index out of range [-1]@push.def_expr diceStates",
   "index out of range [-1]@ld.d details", "index out of range [-1]@dice details", "index out of range [-1]@dice.fate details",
   "index out of range [-1]@coc details", "index out of range [-1]@dice.wod details", "index out of range [-1]@dice.dc details",
   "index out of range [-1]@block.pop", "index out of range [-1]@fstr.block.pop", "index out of range@jump",
   "nil operand type assertion@jump", "details",
   -- a push onto a full operand stack (Go: index out of range on the fixed 1000-slot array)
   "index out of range@stackPush"]
def Structural (s : String) : Bool := structSites.contains s

def NoStruct {α} (r : Res α) : Prop := ∀ s, r = .panic s → Structural s = false
def NoStructSub (sub : SubRun) : Prop := ∀ g fr, NoStruct (sub g fr).2

def Post (P : Frame → Prop) : StepR → Prop
  | .next _ f' => P f'
  | .done _ _ => True
  | .stop _ _ r => NoStruct r

/-- the skeleton-relevant part of a frame is unchanged except for the height -/
structure SameBut (f f' : Frame) (top' : Nat) : Prop where
  pc : f'.pc = f.pc
  top : f'.top = top'
  blocks : f'.blocks = f.blocks
  fblocks : f'.fblocks = f.fblocks
  dice : f'.dice.length = f.dice.length
  details : f'.details.length = f.details.length
  code : f'.code = f.code
  wodPool : f'.wodPool = f.wodPool
  dcPool : f'.dcPool = f.dcPool
  ssize : f'.stack.size = f.stack.size

/-- what keeps every push of the next instruction inside the operand stack: the array has its 1000 slots, the height is within it,
    and every height saved by a block / template-hole push was below the overflow line when it was saved -/
structure Room (f : Frame) : Prop where
  size : f.stack.size = stackSize
  top : f.top ≤ stackSize
  blocks : ∀ t ∈ f.blocks, t < stackSize
  fblocks : ∀ t ∈ f.fblocks, t < stackSize

theorem pop_ok_inv {f : Frame} {v : Val} {f' : Frame} (h : f.pop = .ok (v, f')) : 0 < f.top ∧ SameBut f f' (f.top - 1) := by
  unfold Frame.pop at h
  split at h
  · simp at h
  · rename_i h0
    simp at h
    obtain ⟨_, rfl⟩ := h
    exact ⟨by simp at h0; omega, ⟨rfl, rfl, rfl, rfl, rfl, rfl, rfl, rfl, rfl, rfl⟩⟩

theorem pop_fail {f : Frame} (h : ∀ v f', f.pop = .ok (v, f') → False) : f.top = 0 := by
  unfold Frame.pop at h
  by_cases h0 : f.top = 0
  · exact h0
  · simp [h0] at h

theorem nostruct_cast_of_ne {α β} (r : Res α) (h : ∀ s, r ≠ .panic s) : NoStruct (r.cast : Res β) := by
  intro s hs
  cases r <;> simp [Res.cast] at hs
  exact absurd rfl (h _)

theorem pop_cast {β} {f : Frame} (h : 0 < f.top) : NoStruct (f.pop.cast : Res β) := by
  apply nostruct_cast_of_ne
  intro s
  unfold Frame.pop
  have : (f.top == 0) = false := by simp; omega
  simp [this]

theorem push_ok_inv {f : Frame} {v : Val} {f' : Frame} (h : f.push v = .ok f') : SameBut f f' (f.top + 1) := by
  unfold Frame.push at h
  split at h
  · simp at h; subst h; exact ⟨rfl, rfl, rfl, rfl, rfl, rfl, rfl, rfl, rfl, by simp⟩
  · simp at h

theorem push_cast {β} (f : Frame) (v : Val) (h : f.top < f.stack.size) : NoStruct ((f.push v).cast : Res β) := by
  intro s hs
  unfold Frame.push at hs
  simp [h, Res.cast] at hs

theorem pop2_ok_inv {f : Frame} {a b : Val} {f' : Frame} (h : f.pop2 = .ok (a, b, f')) : 2 ≤ f.top ∧ SameBut f f' (f.top - 2) := by
  unfold Frame.pop2 at h
  split at h
  · rename_i v2 f1 h1
    split at h
    · rename_i v1 f2 h2
      simp at h
      obtain ⟨_, _, rfl⟩ := h
      obtain ⟨p1, s1⟩ := pop_ok_inv h1
      obtain ⟨p2, s2⟩ := pop_ok_inv h2
      refine ⟨by have := s1.top; omega, ⟨?_, ?_, ?_, ?_, ?_, ?_, ?_, ?_, ?_, ?_⟩⟩
      · rw [s2.pc, s1.pc]
      · rw [s2.top, s1.top]; omega
      · rw [s2.blocks, s1.blocks]
      · rw [s2.fblocks, s1.fblocks]
      · rw [s2.dice, s1.dice]
      · rw [s2.details, s1.details]
      · rw [s2.code, s1.code]
      · rw [s2.wodPool, s1.wodPool]
      · rw [s2.dcPool, s1.dcPool]
      · rw [s2.ssize, s1.ssize]
    all_goals simp at h
  all_goals simp at h

theorem pop2_cast {β} {f : Frame} (h : 2 ≤ f.top) : NoStruct (f.pop2.cast : Res β) := by
  apply nostruct_cast_of_ne
  intro s
  unfold Frame.pop2
  rcases (show ∃ v f1, f.pop = .ok (v, f1) by
    unfold Frame.pop; have : (f.top == 0) = false := by simp; omega
    simp [this]) with ⟨v, f1, h1⟩
  rw [h1]
  obtain ⟨_, s1⟩ := pop_ok_inv h1
  rcases (show ∃ v f2, f1.pop = .ok (v, f2) by
    unfold Frame.pop; have : (f1.top == 0) = false := by simp; rw [s1.top]; omega
    simp [this]) with ⟨v', f2, h2⟩
  simp [h2]


theorem popN_go_ok : ∀ (k : Nat) (f : Frame) (acc : List Val) (vs : List Val) (f' : Frame),
    Frame.popN.go k f acc = .ok (vs, f') → k ≤ f.top ∧ SameBut f f' (f.top - k) := by
  intro k
  induction k with
  | zero =>
    intro f acc vs f' h
    simp [Frame.popN.go] at h
    obtain ⟨_, rfl⟩ := h
    exact ⟨by omega, ⟨rfl, by omega, rfl, rfl, rfl, rfl, rfl, rfl, rfl, rfl⟩⟩
  | succ k ih =>
    intro f acc vs f' h
    simp only [Frame.popN.go] at h
    split at h
    · rename_i v f1 h1
      obtain ⟨p1, s1⟩ := pop_ok_inv h1
      obtain ⟨p2, s2⟩ := ih _ _ _ _ h
      refine ⟨by have := s1.top; omega, ⟨?_, ?_, ?_, ?_, ?_, ?_, ?_, ?_, ?_, ?_⟩⟩
      · rw [s2.pc, s1.pc]
      · rw [s2.top, s1.top]; omega
      · rw [s2.blocks, s1.blocks]
      · rw [s2.fblocks, s1.fblocks]
      · rw [s2.dice, s1.dice]
      · rw [s2.details, s1.details]
      · rw [s2.code, s1.code]
      · rw [s2.wodPool, s1.wodPool]
      · rw [s2.dcPool, s1.dcPool]
      · rw [s2.ssize, s1.ssize]
    all_goals simp at h

theorem popN_ok_inv {f : Frame} {n : Int} {vs : List Val} {f' : Frame} (h : f.popN n = .ok (vs, f')) :
    n.toNat ≤ f.top ∧ SameBut f f' (f.top - n.toNat) := by
  unfold Frame.popN at h
  split at h
  · rename_i vs0 f0 h0
    obtain ⟨p, sb⟩ := popN_go_ok _ _ _ _ _ h0
    simp at h
    obtain ⟨_, rfl⟩ := h
    refine ⟨p, ?_⟩
    split
    · exact ⟨sb.pc, sb.top, sb.blocks, sb.fblocks, sb.dice, sb.details, sb.code, sb.wodPool, sb.dcPool, sb.ssize⟩
    · exact sb
  · rename_i hne
    exfalso
    cases hgo : Frame.popN.go n.toNat f [] with
    | ok p => exact hne p.1 p.2 (by rw [hgo])
    | _ => rw [hgo] at h; simp at h

theorem popN_go_nopanic : ∀ (k : Nat) (f : Frame) (acc : List Val), k ≤ f.top → ∃ p, Frame.popN.go k f acc = .ok p := by
  intro k
  induction k with
  | zero => intro f acc _; exact ⟨_, rfl⟩
  | succ k ih =>
    intro f acc hk
    simp only [Frame.popN.go]
    rcases pop_cases f with ⟨h0, _⟩ | ⟨hpos, hp⟩
    · omega
    · rw [hp]
      exact ih _ _ (by simp; omega)

theorem popN_cast {β} {f : Frame} {n : Int} (h : n.toNat ≤ f.top) : NoStruct ((f.popN n).cast : Res β) := by
  apply nostruct_cast_of_ne
  intro s
  obtain ⟨p, hp⟩ := popN_go_nopanic n.toNat f [] h
  unfold Frame.popN
  rw [hp]
  simp


theorem nostruct_of_isPanic {α} {r : Res α} (h : r.isPanic = false) : NoStruct r := by
  intro s hs; subst hs; simp [Res.isPanic] at h

theorem nostruct_cast {α β} {r : Res α} (h : NoStruct r) : NoStruct (r.cast : Res β) := by
  intro s hs
  cases r <;> simp [Res.cast] at hs
  subst hs; exact h _ rfl

theorem nostruct_ok {α} (a : α) : NoStruct (Res.ok a) := by intro s hs; cases hs
theorem nostruct_err {α} (e : String) : NoStruct (Res.err e : Res α) := by intro s hs; cases hs
theorem nostruct_unsup {α} (e : String) : NoStruct (Res.unsup e : Res α) := by intro s hs; cases hs
theorem nostruct_diverge {α} : NoStruct (Res.diverge : Res α) := by intro s hs; cases hs
theorem nostruct_panic_lit {α} (s : String) (h : Structural s = false) : NoStruct (Res.panic s : Res α) := by
  intro s' hs; cases hs; exact h

theorem renderDetail_nostruct (h : Heap) (src : List Nat) (off : Nat) (spans : List Span) (ret : String) :
    NoStruct (renderDetail h src off spans ret) := by
  unfold renderDetail
  simp only []
  repeat' split
  all_goals first
    | exact nostruct_ok _
    | exact nostruct_panic_lit _ (by decide)

theorem sub_panic {sub : SubRun} (hsub : NoStructSub sub) {g : G} {fr : Frame} {g' : G} {s : String}
    (h : sub g fr = (g', .panic s)) : Structural s = false := by
  have := hsub g fr; rw [h] at this; exact this s rfl

theorem of_eq_panic {α} {r : Res α} (hr : NoStruct r) {s : String} (h : r = .panic s) : Structural s = false := hr s h

/-- close a leaf `NoStruct (literal or propagated result)` -/
macro "ns_leaf" : tactic => `(tactic| first
  | exact nostruct_ok _
  | exact nostruct_err _
  | exact nostruct_unsup _
  | exact nostruct_diverge
  | exact nostruct_panic_lit _ (by decide)
  | (intro s' hs'; cases hs'; exact sub_panic ‹NoStructSub _› ‹_›)
  | (intro s' hs'; cases hs'; exact of_eq_panic (renderDetail_nostruct _ _ _ _ _) ‹_›))

macro "split_all" : tactic => `(tactic| repeat' (first | split | (dsimp only)))

theorem computedExecuteCore_nostruct (sub : SubRun) (hsub : NoStructSub sub) (g : G) (c a : Nat) :
    NoStruct (computedExecuteCore sub g c a).2 := by
  unfold computedExecuteCore
  split_all
  all_goals ns_leaf

theorem withCall_nostruct {α} (g : G) (k : G → G × Res α) (h : ∀ g', NoStruct (k g').2) : NoStruct (withCall g k).2 := by
  unfold withCall
  split
  · exact nostruct_err _
  · exact h _

theorem computedExecute_nostruct (sub : SubRun) (hsub : NoStructSub sub) (g : G) (c a : Nat) :
    NoStruct (computedExecute sub g c a).2 :=
  withCall_nostruct g _ (fun g' => computedExecuteCore_nostruct sub hsub g' c a)


theorem walk_nostruct (sub : SubRun) (hsub : NoStructSub sub) (c : Nat) (name : String) (isRaw : Bool) :
    ∀ (fuel : Nat) (g : G) (cur : Nat), NoStruct (loadName.walk sub c name isRaw fuel g cur).2 := by
  intro fuel
  induction fuel with
  | zero => intro g cur; unfold loadName.walk; exact nostruct_diverge
  | succ n ih =>
    intro g cur
    unfold loadName.walk
    split_all
    all_goals first
      | exact ih _ _
      | ns_leaf
      | (intro s' hs'; cases hs'; exact of_eq_panic (computedExecute_nostruct _ ‹_› _ _ _) (by rw [‹computedExecute _ _ _ _ = _›]))
      | skip

theorem loadName_nostruct (sub : SubRun) (hsub : NoStructSub sub) (g : G) (c : Nat) (name : String) (isRaw : Bool) :
    NoStruct (loadName sub g c name isRaw).2 := by
  unfold loadName
  exact walk_nostruct sub hsub c name isRaw _ _ _

macro "ns_leaf2" : tactic => `(tactic| first
  | ns_leaf
  | (intro s' hs'; cases hs'; exact of_eq_panic (computedExecute_nostruct _ ‹_› _ _ _) (by rw [‹computedExecute _ _ _ _ = _›]))
  | (intro s' hs'; cases hs'; exact of_eq_panic (loadName_nostruct _ ‹_› _ _ _ _) (by rw [‹loadName _ _ _ _ _ = _›])))

theorem funcInvokeCore_nostruct (sub : SubRun) (hsub : NoStructSub sub) (g : G) (c a : Nat) (args : List Val) :
    NoStruct (funcInvokeCore sub g c a args).2 := by
  unfold funcInvokeCore
  split_all
  all_goals ns_leaf2

theorem funcInvoke_nostruct (sub : SubRun) (hsub : NoStructSub sub) (g : G) (c a : Nat) (args : List Val) :
    NoStruct (funcInvoke sub g c a args).2 :=
  withCall_nostruct g _ (fun g' => funcInvokeCore_nostruct sub hsub g' c a args)

theorem attrGet_nostruct (sub : SubRun) (hsub : NoStructSub sub) (g : G) (c : Nat) (v : Val) (name : String) :
    NoStruct (attrGet sub g c v name).2 := by
  unfold attrGet
  split_all
  all_goals ns_leaf2

def NS {α} (p : G × Res α) : Prop := NoStruct p.2

theorem ns_ite {α} {c : Prop} [Decidable c] {a b : G × Res α} (ha : c → NS a) (hb : ¬c → NS b) : NS (if c then a else b) := by
  by_cases h : c
  · rw [if_pos h]; exact ha h
  · rw [if_neg h]; exact hb h

set_option maxHeartbeats 1600000 in
theorem nativeCall_nostruct (sub : SubRun) (hsub : NoStructSub sub) (g : G) (c : Nat) (name : String) (st sa : Nat) (params : List Val) :
    NS (nativeCall sub g c name st sa params) := by
  unfold nativeCall
  extract_lets ps want p0 numOnly l kv
  clear_value p0 want ps l kv
  have hnum : ∀ fname f, NS (numOnly fname f) := by
    intro fname f
    simp only [numOnly]
    split <;> (unfold NS; ns_leaf)
  clear_value numOnly
  repeat' (first | (apply ns_ite <;> intro _) | exact hnum _ _ | split)
  all_goals (try unfold NS)
  all_goals (try dsimp only)
  all_goals (try ns_leaf2)


theorem sstep_simple {size p q : Nat} {s : SK} {succs : List SK} (h : sstep size (.simple p q) s = some succs) :
    p ≤ s.top ∧ succs = [{ s with top := s.top - p + q, pc := s.pc + 1 }] := by
  simp only [sstep] at h
  by_cases ht : s.top < p
  · simp [ht] at h
  · simp [ht] at h; exact ⟨by omega, h.symm⟩


theorem match_of_sameBut {F f' : Frame} {t : Nat} (sb : SameBut F f' t) (s : SK) (h1 : s.pc = F.pc) (h2 : s.top = t)
    (h3 : s.blocks = F.blocks) (h4 : s.fblocks = F.fblocks) (h5 : s.dice = F.dice.length) (h6 : s.det = F.details.length) :
    skMatches f' s = true := by
  simp only [skMatches, Bool.and_eq_true, beq_iff_eq]
  rw [sb.pc, sb.top, sb.blocks, sb.fblocks, sb.dice, sb.details]
  exact ⟨⟨⟨⟨⟨h1, h2⟩, h3⟩, h4⟩, h5⟩, h6⟩

theorem sameBut_refl (F : Frame) : SameBut F F F.top := ⟨rfl, rfl, rfl, rfl, rfl, rfl, rfl, rfl, rfl, rfl⟩

theorem ns_of_eq_snd {α β} {p : α × Res β} {a : α} {r : Res β} (h : p = (a, r)) (hp : NoStruct p.2) : NoStruct r := by
  subst h; exact hp

/-- the frame a push writes to has room: it is `f` after pops (explicit record updates once the pops are rewritten) -/
macro "room" : tactic => `(tactic| first
  | assumption
  | (dsimp only; omega)
  | (simp only []; omega)
  | omega)

/-- closes the `code` / `stack size` conjuncts of a `.next` leaf -/
macro "fin_sb" sb:term : tactic => `(tactic| first
  | trivial | rfl | exact ($sb).code | exact ($sb).ssize | exact ⟨($sb).code, ($sb).ssize⟩ | exact ⟨rfl, rfl⟩
  | exact ⟨rfl, ($sb).ssize⟩ | exact ⟨($sb).code, rfl⟩
  | (refine ⟨?_, ?_⟩ <;> first | rfl | exact ($sb).code | exact ($sb).ssize))

open DS.Props.C01 in
/-- leaf: a `.stop` whose result comes from a callee that never reports a structural panic -/
macro "leaf_ns" : tactic => `(tactic| first
  | ns_leaf
  | exact push_cast _ _ (by room)
  | exact nostruct_cast (nostruct_of_isPanic (DS.Props.C01.itemGet_total _ _ _))
  | exact nostruct_cast (ns_of_eq_snd ‹_› (nostruct_of_isPanic (DS.Props.C01.binOp_total _ _ _ _ _)))
  | exact nostruct_cast (ns_of_eq_snd ‹_› (nostruct_of_isPanic (DS.Props.C01.itemSet_total _ _ _ _)))
  | exact nostruct_cast (ns_of_eq_snd ‹_› (nostruct_of_isPanic (DS.Props.C01.getSlice_total _ _ _ _)))
  | exact nostruct_cast (ns_of_eq_snd ‹_› (nostruct_of_isPanic (DS.Props.C01.setSlice_total _ _ _ _ _)))
  | exact nostruct_cast (ns_of_eq_snd ‹_› (funcInvoke_nostruct _ ‹NoStructSub _› _ _ _ _))
  | exact nostruct_cast (ns_of_eq_snd ‹_› (nativeCall_nostruct _ ‹NoStructSub _› _ _ _ _ _ _))
  | exact nostruct_cast (ns_of_eq_snd ‹_› (loadName_nostruct _ ‹NoStructSub _› _ _ _ _))
  | exact nostruct_cast (ns_of_eq_snd ‹_› (attrGet_nostruct _ ‹NoStructSub _› _ _ _ _)))

/-- leaf: `.next` after a final push onto a frame whose skeleton part is known -/
macro "leaf_push" : tactic => `(tactic| (
  have sb := push_ok_inv ‹Frame.push _ _ = Res.ok _›
  (refine ⟨_, List.mem_singleton.mpr rfl, match_of_sameBut sb _ rfl (by first | rfl | (dsimp only [skOfFrame]; omega) | (simp only [skOfFrame]; omega)) rfl rfl rfl rfl, ?_⟩; fin_sb sb)))

/-- leaf: `.next` with an explicit frame -/
macro "leaf_here" : tactic => `(tactic|
  (refine ⟨_, List.mem_singleton.mpr rfl, match_of_sameBut (sameBut_refl _) _ rfl (by first | rfl | (dsimp only [skOfFrame]; omega) | (simp only [skOfFrame]; omega)) rfl rfl rfl rfl, ?_⟩; fin_sb (sameBut_refl _)))

abbrev Goal (sub : SubRun) (g : G) (f : Frame) (wod dc : Bool) (ins : Instr) : Prop :=
  Room f → f.top < f.stack.size → ∀ succs, sstep f.code.size (kindOf ins) (skOfFrame f wod dc) = some succs →
    Post (fun f' => ∃ s' ∈ succs, skMatches f' s' = true ∧ f'.code = f.code ∧ f'.stack.size = f.stack.size) (exec sub g f ins)

theorem sstep_peek {size n : Nat} {s : SK} {succs : List SK} (h : sstep size (.peek n) s = some succs) :
    n ≤ s.top ∧ succs = [{ s with pc := s.pc + 1 }] := by
  simp only [sstep] at h
  by_cases ht : s.top < n
  · simp [ht] at h
  · simp [ht] at h; exact ⟨by omega, h.symm⟩

theorem sstep_jmp {size : Nat} {off : Option Int} {s : SK} {succs : List SK} (h : sstep size (.jmp off) s = some succs) :
    ∃ t, target size s.pc off = some t ∧ succs = [{ s with pc := t }] := by
  simp only [sstep] at h
  cases ht : target size s.pc off with
  | none => simp [ht] at h
  | some t => simp [ht] at h; exact ⟨t, rfl, h.symm⟩

theorem sstep_je {size : Nat} {off : Option Int} {s : SK} {succs : List SK} (h : sstep size (.je off) s = some succs) :
    1 ≤ s.top ∧ ∃ t, target size s.pc off = some t ∧
      succs = [{ s with pc := s.pc + 1, top := s.top - 1 }, { s with pc := t, top := s.top - 1 }] := by
  simp only [sstep] at h
  by_cases ht : s.top < 1
  · simp [ht] at h
  · simp only [ht, if_false] at h
    cases hg : target size s.pc off with
    | none => simp [hg] at h
    | some t => simp [hg] at h; exact ⟨by omega, t, rfl, h.symm⟩

theorem sstep_jne {size : Nat} {off : Option Int} {s : SK} {succs : List SK} (h : sstep size (.jne off) s = some succs) :
    1 ≤ s.top ∧ ∃ t, target size s.pc off = some t ∧
      succs = [{ s with pc := s.pc + 1, top := s.top - 1 }, { s with pc := t, top := s.top - 1 }] := by
  simp only [sstep] at h
  by_cases ht : s.top < 1
  · simp [ht] at h
  · simp only [ht, if_false] at h
    cases hg : target size s.pc off with
    | none => simp [hg] at h
    | some t => simp [hg] at h; exact ⟨by omega, t, rfl, h.symm⟩

theorem sstep_jeDup {size : Nat} {off : Option Int} {s : SK} {succs : List SK} (h : sstep size (.jeDup off) s = some succs) :
    1 ≤ s.top ∧ ∃ t, target size s.pc off = some t ∧
      succs = [{ s with pc := s.pc + 1, top := s.top - 1 }, { s with pc := t }] := by
  simp only [sstep] at h
  by_cases ht : s.top < 1
  · simp [ht] at h
  · simp only [ht, if_false] at h
    cases hg : target size s.pc off with
    | none => simp [hg] at h
    | some t => simp [hg] at h; exact ⟨by omega, t, rfl, h.symm⟩

theorem sstep_blockPush {size : Nat} {s : SK} {succs : List SK} (h : sstep size .blockPush s = some succs) :
    succs = [{ s with blocks := s.top :: s.blocks, pc := s.pc + 1 }] := by
  simp [sstep] at h; exact h.symm

theorem sstep_fstrPush {size : Nat} {s : SK} {succs : List SK} (h : sstep size .fstrPush s = some succs) :
    succs = [{ s with fblocks := s.top :: s.fblocks, pc := s.pc + 1 }] := by
  simp [sstep] at h; exact h.symm

theorem sstep_blockPop {size : Nat} {s : SK} {succs : List SK} (h : sstep size .blockPop s = some succs) :
    ∃ t r, s.blocks = t :: r ∧ succs = [{ s with top := t + 1, blocks := r, pc := s.pc + 1 }] := by
  simp only [sstep] at h
  cases hb : s.blocks with
  | nil => simp [hb] at h
  | cons t r => simp [hb] at h; exact ⟨t, r, rfl, h.symm⟩

theorem sstep_fstrPop {size : Nat} {s : SK} {succs : List SK} (h : sstep size .fstrPop s = some succs) :
    ∃ t r, s.fblocks = t :: r ∧ (t = s.top ∨ 0 < s.top) ∧ succs = [{ s with top := t + 1, fblocks := r, pc := s.pc + 1 }] := by
  simp only [sstep] at h
  cases hb : s.fblocks with
  | nil => simp [hb] at h
  | cons t r =>
    simp only [hb] at h
    by_cases hc : (t != s.top && s.top == 0) = true
    · simp [hc] at h
    · simp only [hc, Bool.false_eq_true, if_false] at h
      simp at h
      refine ⟨t, r, rfl, ?_, h.symm⟩
      simp at hc
      by_cases e : t = s.top
      · exact Or.inl e
      · right; have := hc e; omega

theorem sstep_diceInit {size : Nat} {s : SK} {succs : List SK} (h : sstep size .diceInit s = some succs) :
    succs = [{ s with dice := s.dice + 1, pc := s.pc + 1 }] := by
  simp [sstep] at h; exact h.symm

theorem sstep_markDetail {size : Nat} {s : SK} {succs : List SK} (h : sstep size .markDetail s = some succs) :
    succs = [{ s with det := s.det + 1, pc := s.pc + 1 }] := by
  simp [sstep] at h; exact h.symm

theorem sstep_wodInit {size : Nat} {s : SK} {succs : List SK} (h : sstep size .wodInit s = some succs) :
    succs = [{ s with wod := true, pc := s.pc + 1 }] := by
  simp [sstep] at h; exact h.symm

theorem sstep_dcInit {size : Nat} {s : SK} {succs : List SK} (h : sstep size .dcInit s = some succs) :
    succs = [{ s with dc := true, pc := s.pc + 1 }] := by
  simp [sstep] at h; exact h.symm

theorem sstep_diceSet {size : Nat} {s : SK} {succs : List SK} (h : sstep size .diceSet s = some succs) :
    1 ≤ s.top ∧ 1 ≤ s.dice ∧ succs = [{ s with top := s.top - 1, pc := s.pc + 1 }] := by
  simp [sstep] at h
  obtain ⟨hc, hh⟩ := h
  exact ⟨by omega, by omega, hh.symm⟩

theorem sstep_dice {size : Nat} {s : SK} {succs : List SK} (h : sstep size .dice s = some succs) :
    1 ≤ s.top ∧ 1 ≤ s.dice ∧ 1 ≤ s.det ∧ succs = [{ s with dice := s.dice - 1, pc := s.pc + 1 }] := by
  simp [sstep] at h
  obtain ⟨hc, hh⟩ := h
  exact ⟨by omega, by omega, by omega, hh.symm⟩

theorem sstep_detUse {size p q : Nat} {s : SK} {succs : List SK} (h : sstep size (.detUse p q) s = some succs) :
    p ≤ s.top ∧ 1 ≤ s.det ∧ succs = [{ s with top := s.top - p + q, pc := s.pc + 1 }] := by
  simp [sstep] at h
  obtain ⟨hc, hh⟩ := h
  exact ⟨by omega, by omega, hh.symm⟩

theorem sstep_defExpr {size : Nat} {s : SK} {succs : List SK} (h : sstep size .defExpr s = some succs) :
    1 ≤ s.det ∧ 1 ≤ s.dice ∧ succs = [{ s with top := s.top + 1, pc := s.pc + 1 }] := by
  simp [sstep] at h
  obtain ⟨hc, hh⟩ := h
  exact ⟨by omega, by omega, hh.symm⟩

theorem sstep_wodSet {size : Nat} {s : SK} {succs : List SK} (h : sstep size .wodSet s = some succs) :
    1 ≤ s.top ∧ succs = [{ s with top := s.top - 1, pc := s.pc + 1 }] := by
  simp [sstep] at h
  obtain ⟨hc, hh⟩ := h
  exact ⟨by omega, hh.symm⟩

theorem sstep_dcSet {size : Nat} {s : SK} {succs : List SK} (h : sstep size .dcSet s = some succs) :
    1 ≤ s.top ∧ succs = [{ s with top := s.top - 1, pc := s.pc + 1 }] := by
  simp [sstep] at h
  obtain ⟨hc, hh⟩ := h
  exact ⟨by omega, hh.symm⟩

theorem sstep_wodRoll {size : Nat} {s : SK} {succs : List SK} (h : sstep size .wodRoll s = some succs) :
    1 ≤ s.top ∧ 1 ≤ s.det ∧ succs = [{ s with pc := s.pc + 1 }] := by
  simp [sstep] at h
  obtain ⟨hc, hh⟩ := h
  exact ⟨by omega, by omega, hh.symm⟩

theorem sstep_dcRoll {size : Nat} {s : SK} {succs : List SK} (h : sstep size .dcRoll s = some succs) :
    1 ≤ s.top ∧ 1 ≤ s.det ∧ succs = [{ s with pc := s.pc + 1 }] := by
  simp [sstep] at h
  obtain ⟨hc, hh⟩ := h
  exact ⟨by omega, by omega, hh.symm⟩


end DS.VM
