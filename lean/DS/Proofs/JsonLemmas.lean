/- lemmas for the JSON codec theorems (C09, C10) -/
import DS.Model.Json

namespace DS.Proofs.JsonL
open DS.Json

section
variable (dl : List J → Except Unit (List V)) (dm : J → Except Unit (List (String × V))) (o : Option J)

/-! `decodeByTag` tag by tag; `decodeByTag_unknown` is the `else` at the end of the chain. -/

theorem decodeByTag_int : decodeByTag dl dm 0 o = (asInt o).map .int := by
  cases h : asInt o <;> simp [decodeByTag, h, Except.map]
theorem decodeByTag_float : decodeByTag dl dm 1 o = (asFloat o).map .float := by
  cases h : asFloat o <;> simp [decodeByTag, h, Except.map]
theorem decodeByTag_str : decodeByTag dl dm 2 o = (asString o).map .str := by
  cases h : asString o <;> simp [decodeByTag, h, Except.map]
theorem decodeByTag_null : decodeByTag dl dm 4 o = .ok .null := rfl
theorem decodeByTag_computed : decodeByTag dl dm 5 o = decComputed dm o := rfl
theorem decodeByTag_array : decodeByTag dl dm 6 o = decArray dl o := rfl
theorem decodeByTag_dict : decodeByTag dl dm 7 o = decDict dm o := rfl
theorem decodeByTag_func : decodeByTag dl dm 8 o = decFunc o := rfl
theorem decodeByTag_nativeFn : decodeByTag dl dm 9 o = decNativeFn o := rfl
theorem decodeByTag_nativeObj : decodeByTag dl dm 10 o = decNativeObj o := rfl

theorem decodeByTag_unknown {t : Int} (ht : t ∉ [0, 1, 2, 4, 5, 6, 7, 8, 9, 10]) :
    decodeByTag dl dm t o = .ok (.unknownTag t) := by
  simp only [List.mem_cons, List.not_mem_nil, or_false, not_or] at ht
  simp only [decodeByTag, beq_iff_eq, ht, if_false]
end

theorem asInt_ok (t : Int) (h : minInt64 ≤ t ∧ t ≤ maxInt64) : asInt (some (.num (.int t))) = .ok t := by
  simp [asInt, h]

/-- what `encode` wraps every value in decodes, one level of fuel down, by its tag -/
theorem decode_tagObj {n : Nat} (hn : 0 < n) {t : Int} (ht : minInt64 ≤ t ∧ t ≤ maxInt64) (v : Option J) :
    decode n (tagObj t v) = decodeByTag (decodeList (n - 1)) (decodeMap (n - 1)) t v := by
  obtain ⟨m, rfl⟩ : ∃ m, n = m + 1 := ⟨n - 1, by omega⟩
  cases v <;> simp [decode, tagObj, lookup, fkey, asInt_ok t ht]

mutual
  /-- nesting depth (bounds the fuel decode needs) -/
  def depth : V → Nat
    | .arr l => depthList l + 1
    | .dict kv => depthEntries kv + 1
    | .computed _ (some m) => depthEntries m + 1
    | _ => 0
  def depthList : List V → Nat
    | [] => 0
    | v :: r => max (depth v) (depthList r)
  def depthEntries : List (String × V) → Nat
    | [] => 0
    | (_, v) :: r => max (depth v) (depthEntries r)
end

mutual
  /-- values the encoder accepts: int64 integers, finite floats, known native functions, no unknown tags -/
  def encodable : V → Bool
    | .int i => decide (minInt64 ≤ i ∧ i ≤ maxInt64)
    | .float f => isFinite f
    | .arr l => encodableList l
    | .dict kv => encodableEntries kv
    | .computed _ (some m) => encodableEntries m
    | .nativeFn n => builtinNames.contains n
    | .unknownTag _ => false
    | _ => true
  def encodableList : List V → Bool
    | [] => true
    | v :: r => encodable v && encodableList r
  def encodableEntries : List (String × V) → Bool
    | [] => true
    | (_, v) :: r => encodable v && encodableEntries r
end

theorem asStrings_strs (ps : List String) : asStrings (ps.map J.str) = .ok ps := by
  induction ps with
  | nil => rfl
  | cons p ps ih => simp [asStrings, asString, ih]

/-- an encoded value is always an object (so it is never the literal null inside a container):
    every successful branch of `encode` returns a `tagObj` -/
theorem encode_is_obj (v : V) (j : J) (h : encode v = .ok j) : ∃ kv, j = .obj kv := by
  have tag (t : Int) (o : Option J) : ∃ kv, tagObj t o = .obj kv := by cases o <;> exact ⟨_, rfl⟩
  unfold encode at h
  split at h <;> (try split at h) <;> cases h <;> exact tag ..

end DS.Proofs.JsonL
