/- lemmas about rune decoding and the engine's `read` bookkeeping (C19) -/
import DS.Model.ErrFmt

namespace DS.Proofs.ErrL
open DS.ErrFmt

theorem decodeRune_width_le (bs : List Nat) : (decodeRune bs).2 ≤ bs.length := by
  have leaf {c : Prop} [Decidable c] {a b n : Nat} (ha : a ≤ n) (hb : b ≤ n) : (if c then a else b) ≤ n := by
    split <;> assumption
  -- once the length of `bs` is known up to 4 the patterns on the continuation bytes are decided; what is left
  -- is a tree of `if`s whose leaves are the widths 1 .. 4 those patterns allow
  match bs with
  | [] => exact Nat.le_refl 0
  | [_] | [_, _] | [_, _, _] | _ :: _ :: _ :: _ :: _ =>
    simp only [decodeRune, apply_ite Prod.snd, List.length_cons]
    repeat' apply leaf
    all_goals simp

theorem runes_succ_back : ∀ (k : Nat) (bs : List Nat),
    runes (k + 1) bs = runes k bs ++ [(decodeRune (dropRunes k bs)).1]
  | 0, _ => rfl
  | k + 1, bs => by rw [runes, runes_succ_back k]; rfl

theorem dropRunes_succ_back : ∀ (k : Nat) (bs : List Nat),
    dropRunes (k + 1) bs = (dropRunes k bs).drop (decodeRune (dropRunes k bs)).2
  | 0, _ => rfl
  | k + 1, bs => by rw [dropRunes, dropRunes_succ_back k]; rfl

theorem runes_length : ∀ (k : Nat) (bs : List Nat), (runes k bs).length = k := by
  intro k
  induction k with
  | zero => intro bs; rfl
  | succ k ih => intro bs; simp [runes, ih]

/-- one more rune: a newline resets the count, anything else adds one -/
theorem sinceNewline_concat (r : Nat) : ∀ rs : List Nat,
    sinceNewline (rs ++ [r]) = if r = 10 then 0 else sinceNewline rs + 1
  | [] => by simp [sinceNewline]
  | a :: rs => by
    have ih := sinceNewline_concat r rs
    by_cases hr : r = 10
    · simp_all [sinceNewline]
    · simp only [sinceNewline, List.cons_append, ih, hr, List.contains_append, List.contains_cons,
        List.contains_nil, beq_eq_false_iff_ne.mpr (Ne.symm hr), Bool.or_false, if_false, List.length_append,
        List.length_cons, List.length_nil, apply_ite (· + 1)]

/-- the invariant of `readN`: after k reads the engine has consumed exactly the first k runes; its line is one
    more than the newlines among them, its column the number of runes since the last of those -/
structure ReadInv (input : List Nat) (k : Nat) (p : Pos) : Prop where
  rest : input.drop (p.offset + p.w) = dropRunes k input
  line : p.line = 1 + (runes k input).count 10
  col : p.col = sinceNewline (runes k input)
  bound : p.offset + p.w ≤ input.length
  cur : 0 < k → p.rn = (decodeRune (dropRunes (k - 1) input)).1 ∧ input.drop p.offset = dropRunes (k - 1) input

theorem read_eq (input : List Nat) (p : Pos) :
    DS.ErrFmt.read input p =
      (let d := decodeRune (input.drop (p.offset + p.w))
       { line := if d.1 = 10 then p.line + 1 else p.line, col := if d.1 = 10 then 0 else p.col + 1,
         offset := p.offset + p.w, rn := d.1, w := d.2 }) := by
  simp only [DS.ErrFmt.read, beq_iff_eq]
  split <;> rfl

theorem readInv (input : List Nat) : ∀ k, ReadInv input k (readN input k)
  | 0 => ⟨rfl, rfl, rfl, Nat.zero_le _, fun h => absurd h (Nat.lt_irrefl 0)⟩
  | k + 1 => by
    have ih := readInv input k
    have hw := decodeRune_width_le (dropRunes k input)
    have hlen := congrArg List.length ih.rest
    rw [List.length_drop] at hlen
    have hb := ih.bound
    rw [readN, read_eq, ih.rest]
    refine ⟨?_, ?_, ?_, by simp only; omega, fun _ => ⟨rfl, ih.rest⟩⟩
    · rw [dropRunes_succ_back, ← ih.rest, List.drop_drop]
    · simp only [runes_succ_back, List.count_append, List.count_singleton, ih.line, beq_iff_eq]
      split <;> omega
    · simp only [runes_succ_back, sinceNewline_concat, ih.col]

end DS.Proofs.ErrL
