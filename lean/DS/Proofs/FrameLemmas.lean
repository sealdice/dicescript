/- the operand-stack primitives as equations, under the height conditions that make them succeed -/
import DS.Model.VM

namespace DS.VM

theorem pop_cases (f : Frame) :
    (f.top = 0 ∧ f.pop = .panic "index out of range [-1]@stackPop") ∨
    (0 < f.top ∧ f.pop = .ok (f.stack[f.top - 1]!, { f with top := f.top - 1, lastPop := .slot (f.top - 1) })) := by
  unfold Frame.pop
  by_cases h : f.top = 0
  · left; simp [h]
  · right; simp [h]; omega

theorem pop_eq (f : Frame) (h : 0 < f.top) :
    f.pop = .ok (f.stack[f.top - 1]!, { f with top := f.top - 1, lastPop := .slot (f.top - 1) }) := by
  rcases pop_cases f with ⟨h0, _⟩ | ⟨_, hp⟩
  · omega
  · exact hp

theorem pop2_eq (f : Frame) (h : 2 ≤ f.top) :
    f.pop2 = .ok (f.stack[f.top - 1 - 1]!, f.stack[f.top - 1]!, { f with top := f.top - 1 - 1, lastPop := .slot (f.top - 1 - 1) }) := by
  unfold Frame.pop2
  rw [pop_eq f (by omega)]
  dsimp only
  rw [pop_eq _ (by dsimp only; omega)]

theorem push_eq (f : Frame) (v : Val) (h : f.top < f.stack.size) :
    f.push v = .ok { f with stack := f.stack.set! f.top v, top := f.top + 1 } := by
  simp [Frame.push, h]

end DS.VM
