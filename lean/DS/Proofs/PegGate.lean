/-
  Gating theorem for the PEG engine model: syntax behind a flag predicate stays off while the flag is in its blocking state.
  Engine-generic (any grammar, any action table, any input, any fuel); instantiated on the regenerated grammar in Props/C16.
-/
import DS.Proofs.PegBasics

namespace DS.Peg

/-- the part of the environment the static check reads (no input text) -/
structure GEnv where
  acts : Array Act
  nrules : Nat
  bpop : Nat
  fpop : Nat
  jmp : Nat
  customOp : Nat

def Env.genv (env : Env) : GEnv := { acts := env.acts, nrules := env.rules.size, bpop := env.bpop, fpop := env.fpop, jmp := env.jmp, customOp := env.customOp }

structure Gate where
  flag : FlagId
  blocked : Bool            -- value of the flag under which the guarded syntax must stay off
  gated : Nat → Bool        -- opcodes that must not be written
  guardIds : List Nat       -- ids of the guard nodes (`&{flag}` predicates that fail while the flag is blocked)

def isGuardAct (ge : GEnv) (g : Gate) (a : Nat) : Bool :=
  match (ge.acts[a]!).pred with
  | .flag f neg => f == g.flag && neg == g.blocked && (ge.acts[a]!).effs.isEmpty
  | _ => false

mutual
/-- `e` cannot succeed while the flag is blocked (a failing guard is reached, or an earlier element fails) -/
def dead (ge : GEnv) (g : Gate) : PExpr → Bool
  | .andCode _ a => isGuardAct ge g a
  | .seq _ es => deadAny ge g es
  | .choice _ es => deadAll ge g es
  | .action _ _ e => dead ge g e
  | .labeled _ _ _ e => dead ge g e
  | .plus _ e => dead ge g e
  | .and_ _ e => dead ge g e
  | _ => false
def deadAny (ge : GEnv) (g : Gate) : List PExpr → Bool
  | [] => false
  | e :: r => dead ge g e || deadAny ge g r
def deadAll (ge : GEnv) (g : Gate) : List PExpr → Bool
  | [] => true
  | e :: r => dead ge g e && deadAll ge g r
end

def effSafe (ge : GEnv) (g : Gate) : Eff → Bool
  | .emit op => !g.gated op
  | .loopBegin | .loopEnd | .codePush | .codePop | .flagsPush | .flagsPop | .addErr | .flagsSwitch => true
  | .breakCont => !g.gated ge.bpop && !g.gated ge.fpop && !g.gated ge.jmp
  | .setFlag f v => f != g.flag || v == g.blocked
  | .consumeCustom => true
  | .commitCustom => !g.gated ge.customOp
  | .unknown _ => false

def actSafe (ge : GEnv) (g : Gate) (a : Nat) : Bool := ((ge.acts[a]!).effs).all (effSafe ge g)

mutual
/-- `e` may be evaluated while the flag is blocked: nothing gated is written, the flag is not unblocked, and `guardIds` lists
    exactly the visited nodes that cannot succeed; `ok[i]` = rule i may be entered -/
def chk (ge : GEnv) (g : Gate) (ok : Array Bool) : PExpr → Bool
  | .seq i es => (g.guardIds.contains i == deadAny ge g es) && chkSeq ge g ok es
  | .choice i es => (g.guardIds.contains i == deadAll ge g es) && chkAll ge g ok es
  | .action i a e => (g.guardIds.contains i == dead ge g e) && (dead ge g e || actSafe ge g a) && chk ge g ok e
  | .code i a _ => !(g.guardIds.contains i) && actSafe ge g a
  | .andCode i a => (g.guardIds.contains i == isGuardAct ge g a) && actSafe ge g a
  | .and_ i e => (g.guardIds.contains i == dead ge g e) && chk ge g ok e
  | .andLogical i e => !(g.guardIds.contains i) && chk ge g ok e
  | .not_ i e => !(g.guardIds.contains i) && chk ge g ok e
  | .any i => !(g.guardIds.contains i)
  | .lit i _ _ => !(g.guardIds.contains i)
  | .cls i _ _ _ _ _ => !(g.guardIds.contains i)
  | .star i e => !(g.guardIds.contains i) && chk ge g ok e
  | .plus i e => (g.guardIds.contains i == dead ge g e) && chk ge g ok e
  | .opt i e => !(g.guardIds.contains i) && chk ge g ok e
  | .labeled i _ _ e => (g.guardIds.contains i == dead ge g e) && chk ge g ok e
  | .ref i idx => !(g.guardIds.contains i) && ok[idx]! && decide (idx < ge.nrules)
/-- a sequence: everything after an element that cannot succeed is unreachable while the flag is blocked -/
def chkSeq (ge : GEnv) (g : Gate) (ok : Array Bool) : List PExpr → Bool
  | [] => true
  | e :: r => chk ge g ok e && (dead ge g e || chkSeq ge g ok r)
def chkAll (ge : GEnv) (g : Gate) (ok : Array Bool) : List PExpr → Bool
  | [] => true
  | e :: r => chk ge g ok e && chkAll ge g ok r
end

abbrev Memo := Std.HashMap (Nat × Nat) (Bool × Nat × Flags)

def MemoOK (g : Gate) (m : Memo) : Prop :=
  ∀ (pos id : Nat) (b : Bool) (e : Nat) (fl : Flags), g.guardIds.contains id = true → m[(pos, id)]? = some (b, e, fl) → b = false

theorem memoGet_eq_some {m : Memo} {key : Nat × Nat} {cfg : Flags} {b : Bool} {e : Nat}
    (h : memoGet m key cfg = some (b, e)) : m[key]? = some (b, e, cfg) := by
  unfold memoGet at h
  split at h
  · rename_i heq
    split at h
    · cases h; subst_vars; exact heq
    · cases h
  · cases h

structure Core (g : Gate) (s : PState) : Prop where
  cfg : s.cfg.get g.flag = g.blocked
  stack : ∀ f ∈ s.flagsStack, f.get g.flag = g.blocked
  trace : ∀ op ∈ s.trace, g.gated op = false
  m1 : MemoOK g s.memo1
  m2 : MemoOK g s.memo2

/-- unless a macro has run (then nothing is claimed) the blocked state is intact -/
def Good (g : Gate) (s : PState) : Prop := s.switched = false → Core g s

theorem get_set_ne (f : Flags) (a b : FlagId) (v : Bool) (h : a ≠ b) : (f.set a v).get b = f.get b := by
  cases a <;> cases b <;> simp_all [Flags.set, Flags.get]

theorem get_set_same (f : Flags) (a : FlagId) (v : Bool) : (f.set a v).get a = v := by
  cases a <;> simp [Flags.set, Flags.get]

/-! ### once a macro has run, `switched` stays set -/

theorem Moved.switched {s s' : PState} : Moved s s' → s'.switched = s.switched
  | ⟨_, _, _, h⟩ => h ▸ rfl

theorem commitCustom_switched (env : Env) (s : PState) : (commitCustom env s).switched = s.switched := by
  simp only [commitCustom]; split <;> rfl

theorem runEff_switched (env : Env) (e : Eff) (s : PState) (h : s.switched = true) : (runEff env s e).switched = true := by
  cases e with
  | consumeCustom => simp only [runEff]; rw [(consumeCustom_moved env s).switched]; exact h
  | commitCustom => simp only [runEff]; rw [commitCustom_switched]; exact h
  | _ => simp only [runEff] <;> (try split) <;> (try split) <;> simp_all

theorem foldl_switched (env : Env) : ∀ (l : List Eff) (s : PState), s.switched = true → (l.foldl (runEff env) s).switched = true
  | [], _, h => h
  | e :: r, s, h => foldl_switched env r _ (runEff_switched env e s h)

theorem evalPred_switched (env : Env) (a : Nat) (s : PState) (h : s.switched = true) : (evalPred env s a).1.switched = true := by
  have h' := foldl_switched env (env.acts[a]!).effs s h
  simp only [evalPred]
  split
  · exact h'
  · exact h'
  · rw [(prepareCustom_moved env _).switched]; exact h'
  · exact h'
  · exact h'
  · exact h'

def Mono (f : PState → PState × Bool) : Prop := ∀ s, s.switched = true → (f s).1.switched = true

theorem switched_mono (env : Env) : ∀ fuel,
    (∀ e, Mono (parseExpr env fuel e)) ∧ (∀ e, Mono (parseNode env fuel e)) ∧ (∀ es p0, Mono (fun s => parseSeq env fuel es s p0)) ∧
    (∀ es, Mono (parseChoice env fuel es)) ∧ (∀ e, Mono (parseStar env fuel e)) := by
  intro fuel
  induction fuel with
  | zero =>
    refine ⟨?_, ?_, ?_, ?_, ?_⟩ <;> intros <;> intro s h <;> simp only [parseExpr, parseNode, parseSeq, parseChoice, parseStar] <;> exact h
  | succ n ih =>
    obtain ⟨ihE, ihN, ihS, ihC, ihT⟩ := ih
    refine ⟨?_, ?_, ?_, ?_, ?_⟩
    · intro e s h
      simp only [parseExpr]
      split
      · exact h
      · split
        · exact h
        · have := ihN e { s with cnt := s.cnt + 1 } h
          split <;> exact this
    · intro e s h
      cases e with
      | seq i es =>
        simp only [parseNode]
        have := ihS es s.pos s h
        split
        · exact this
        · exact this
      | choice i es => simp only [parseNode]; exact ihC es s h
      | action i a e' =>
        simp only [parseNode]
        split
        · exact ihE e' s h
        · have := ihE e' s h
          split
          · exact foldl_switched env _ _ this
          · exact this
      | code i a ns =>
        simp only [parseNode]
        split
        · exact h
        · exact foldl_switched env _ _ h
      | andCode i a => simp only [parseNode]; exact evalPred_switched env a s h
      | and_ i e' => simp only [parseNode]; exact ihE e' { s with skip := s.skip + 1 } h
      | andLogical i e' => simp only [parseNode]; exact ihE e' { s with skip := s.skip + 1 } h
      | not_ i e' => simp only [parseNode]; exact ihE e' { s with skip := s.skip + 1 } h
      | any i =>
        simp only [parseNode]
        split
        · exact h
        · rw [(advance_moved env s).switched]; exact h
      | lit i rs ic => simp only [parseNode]; rw [(matchLit_moved env ic s.pos rs s).switched]; exact h
      | cls i cs rs cl inv ic =>
        simp only [parseNode]
        split
        · exact h
        · split
          · rw [(advance_moved env s).switched]; exact h
          · exact h
      | star i e' => simp only [parseNode]; exact ihT e' s h
      | plus i e' =>
        simp only [parseNode]
        have := ihE e' s h
        split
        · exact ihT e' _ this
        · exact this
      | opt i e' => simp only [parseNode]; exact ihE e' s h
      | labeled i l tc e' =>
        simp only [parseNode]
        have := ihE e' s h
        split <;> exact this
      | ref i idx => simp only [parseNode]; exact ihE _ { s with labels := [] } h
    · intro es p0 s h
      cases es with
      | nil => simp only [parseSeq]; exact h
      | cons e r =>
        simp only [parseSeq]
        have := ihE e s h
        split
        · exact ihS r p0 _ this
        · exact this
    · intro es s h
      cases es with
      | nil => simp only [parseChoice]; exact h
      | cons e r =>
        simp only [parseChoice]
        have := ihE e s h
        split
        · exact this
        · exact ihC r _ this
    · intro e s h
      simp only [parseStar]
      have := ihE e s h
      split
      · exact ihT e _ this
      · exact this



theorem not_switched_of (s s' : PState) (hm : s.switched = true → s'.switched = true) (h : s'.switched = false) : s.switched = false := by
  cases h0 : s.switched
  · rfl
  · rw [hm h0] at h; cases h

/-- what `Good` reads of a state -/
def view (s : PState) := (s.switched, s.cfg, s.flagsStack, s.trace, s.memo1, s.memo2)

theorem Good.of_view {g : Gate} {s s' : PState} (h : Good g s) (e : view s' = view s) : Good g s' := by
  simp only [view, Prod.mk.injEq] at e
  obtain ⟨e1, e2, e3, e4, e5, e6⟩ := e
  intro hsw
  have h := h (e1 ▸ hsw)
  exact ⟨e2 ▸ h.cfg, e3 ▸ h.stack, e4 ▸ h.trace, e5 ▸ h.m1, e6 ▸ h.m2⟩

theorem Moved.view {s s' : PState} : Moved s s' → view s' = view s
  | ⟨_, _, _, h⟩ => h ▸ rfl

theorem commitCustom_good (env : Env) (g : Gate) (s : PState) (hs : g.gated env.customOp = false) (h : Good g s) : Good g (commitCustom env s) := by
  simp only [commitCustom]
  split
  · exact h
  · intro hsw
    have hc := h hsw
    exact ⟨hc.cfg, hc.stack, by intro o ho; simp only [List.mem_cons] at ho; rcases ho with ho | ho; (· subst ho; exact hs); (· exact hc.trace o ho), hc.m1, hc.m2⟩

theorem runEff_good (env : Env) (g : Gate) (e : Eff) (s : PState) (hs : effSafe env.genv g e = true) (h : Good g s) :
    Good g (runEff env s e) := by
  intro hsw
  have h := h (not_switched_of s _ (runEff_switched env e s) hsw)
  cases e with
  | emit op =>
    simp only [effSafe, Bool.not_eq_true'] at hs
    exact ⟨h.cfg, h.stack, by intro o ho; simp only [runEff, List.mem_cons] at ho; rcases ho with ho | ho; (· subst ho; exact hs); (· exact h.trace o ho), h.m1, h.m2⟩
  | loopBegin => exact ⟨h.cfg, h.stack, h.trace, h.m1, h.m2⟩
  | loopEnd => exact ⟨h.cfg, h.stack, h.trace, h.m1, h.m2⟩
  | codePush => exact ⟨h.cfg, h.stack, h.trace, h.m1, h.m2⟩
  | codePop => simp only [runEff]; split <;> exact ⟨h.cfg, h.stack, h.trace, h.m1, h.m2⟩
  | breakCont =>
    simp only [effSafe, Bool.and_eq_true, Bool.not_eq_true'] at hs
    simp only [runEff]
    split
    · exact ⟨h.cfg, h.stack, h.trace, h.m1, h.m2⟩
    · refine ⟨h.cfg, h.stack, ?_, h.m1, h.m2⟩
      intro o ho
      simp only [List.mem_cons, List.mem_append, List.mem_reverse, List.mem_map] at ho
      rcases ho with ho | ⟨b, _, ho⟩ | ho
      · subst ho; exact hs.2
      · cases b
        · simp at ho; subst ho; exact hs.1.2
        · simp at ho; subst ho; exact hs.1.1
      · exact h.trace o ho
  | flagsPush =>
    refine ⟨h.cfg, ?_, h.trace, h.m1, h.m2⟩
    intro f hf
    simp only [runEff, List.mem_cons] at hf
    rcases hf with hf | hf
    · subst hf; exact h.cfg
    · exact h.stack f hf
  | flagsPop =>
    simp only [runEff]
    split
    · rename_i f r hst
      refine ⟨?_, ?_, h.trace, h.m1, h.m2⟩
      · exact h.stack f (by rw [hst]; exact List.mem_cons_self)
      · intro f' hf'; exact h.stack f' (by rw [hst]; exact List.mem_cons_of_mem _ hf')
    · exact ⟨h.cfg, h.stack, h.trace, h.m1, h.m2⟩
  | setFlag f v =>
    simp only [effSafe, Bool.or_eq_true, bne_iff_ne, ne_eq, beq_iff_eq] at hs
    refine ⟨?_, h.stack, h.trace, h.m1, h.m2⟩
    simp only [runEff]
    by_cases hf : f = g.flag
    · subst hf
      rcases hs with hs | hs
      · exact absurd rfl hs
      · rw [get_set_same]; exact hs
    · rw [get_set_ne _ _ _ _ hf]; exact h.cfg
  | flagsSwitch => simp [runEff] at hsw
  | addErr => exact ⟨h.cfg, h.stack, h.trace, h.m1, h.m2⟩
  | consumeCustom => exact Good.of_view (fun _ => h) (consumeCustom_moved env s).view hsw
  | commitCustom =>
    simp only [effSafe, Bool.not_eq_true'] at hs
    exact commitCustom_good env g s hs (fun _ => h) hsw
  | unknown w => simp [effSafe] at hs

theorem foldl_runEff_good (env : Env) (g : Gate) : ∀ (l : List Eff) (s : PState), l.all (effSafe env.genv g) = true → Good g s →
    Good g (l.foldl (runEff env) s)
  | [], s, _, h => h
  | e :: r, s, hl, h => by
    simp only [List.all_cons, Bool.and_eq_true] at hl
    exact foldl_runEff_good env g r _ hl.2 (runEff_good env g e s hl.1 h)

theorem runAct_good (env : Env) (g : Gate) (a : Nat) (s : PState) (hs : actSafe env.genv g a = true) (h : Good g s) :
    Good g (runAct env s a) := foldl_runEff_good env g _ s hs h

theorem evalPred_good (env : Env) (g : Gate) (a : Nat) (s : PState) (hs : actSafe env.genv g a = true) (h : Good g s) :
    Good g (evalPred env s a).1 := by
  have h' := foldl_runEff_good env g _ s hs h
  simp only [evalPred]
  split
  · exact h'
  · exact h'
  · exact h'.of_view (prepareCustom_moved env _).view
  · exact h'
  · exact h'.of_view rfl
  · exact h'.of_view rfl

/-- a guard fails while the flag is blocked -/
theorem guard_fails (env : Env) (g : Gate) (a : Nat) (s : PState) (hg : isGuardAct env.genv g a = true) (h : Core g s) :
    (evalPred env s a).2 = false := by
  simp only [isGuardAct, Env.genv] at hg
  split at hg
  · rename_i f neg hp
    simp only [Bool.and_eq_true, beq_iff_eq, List.isEmpty_iff] at hg
    obtain ⟨⟨hf, hn⟩, he⟩ := hg
    simp only [evalPred, he, List.foldl_nil, hp]
    subst hf hn
    have := h.cfg
    cases hb : g.blocked <;> simp_all
  · cases hg

theorem memoOK_insert (g : Gate) (m : Memo) (pos id : Nat) (b : Bool) (e : Nat) (fl : Flags) (hm : MemoOK g m)
    (hb : g.guardIds.contains id = true → b = false) : MemoOK g (m.insert (pos, id) (b, e, fl)) := by
  intro pos' id' b' e' fl' hid hget
  rw [Std.HashMap.getElem?_insert] at hget
  split at hget
  · rename_i heq
    simp only [beq_iff_eq, Prod.mk.injEq] at heq
    injection hget with hget
    simp only [Prod.mk.injEq] at hget
    rw [← hget.1]
    exact hb (by rw [heq.2]; exact hid)
  · exact hm pos' id' b' e' fl' hid hget

/-! ### the gating theorem -/

theorem guard_state (env : Env) (g : Gate) (a : Nat) (s : PState) (hg : isGuardAct env.genv g a = true) : (evalPred env s a).1 = s := by
  simp only [isGuardAct, Env.genv] at hg
  split at hg
  · rename_i f neg hp
    simp only [Bool.and_eq_true, beq_iff_eq, List.isEmpty_iff] at hg
    simp only [evalPred, hg.2, List.foldl_nil, hp]
  · cases hg

def ResOK (g : Gate) (id : Nat) (r : PState × Bool) : Prop :=
  Good g r.1 ∧ (r.1.switched = false → g.guardIds.contains id = true → r.2 = false)


/-- the shape the five clauses of `gate_sound` share: the state stays good and, unless a macro has run, what is dead has failed -/
def Res (g : Gate) (dead : Bool) (r : PState × Bool) : Prop :=
  Good g r.1 ∧ (r.1.switched = false → dead = true → r.2 = false)

theorem Res.live {g : Gate} {r : PState × Bool} (h : Good g r.1) : Res g false r := ⟨h, fun _ h => nomatch h⟩

theorem Res.of_fail {g : Gate} {d : Bool} {s : PState} (h : Good g s) : Res g d (s, false) := ⟨h, fun _ _ => rfl⟩

/-- once a macro has run nothing is claimed -/
theorem Res.of_switched {g : Gate} {d : Bool} {r : PState × Bool} (h : r.1.switched = true) : Res g d r :=
  ⟨fun hsw => (by rw [h] at hsw; cases hsw), fun hsw => (by rw [h] at hsw; cases hsw)⟩

/-- what is dead and succeeded all the same tells that a macro has run -/
theorem Res.switched {g : Gate} {r : PState × Bool} (h : Res g true r) (hok : r.2 = true) : r.1.switched = true := by
  cases hsw : r.1.switched
  · rw [h.2 hsw rfl] at hok; cases hok
  · rfl

/-- what the check says about a node's id -/
theorem chk_id (ge : GEnv) (g : Gate) (ok : Array Bool) (e : PExpr) (h : chk ge g ok e = true) :
    g.guardIds.contains (nodeId e) = dead ge g e := by
  cases e <;> simp only [chk, Bool.and_eq_true, beq_iff_eq, Bool.not_eq_true'] at h <;> simp only [nodeId, dead]
  all_goals first
    | exact h.1
    | exact h.1.1
    | exact h.1.1.1
    | exact h

theorem gate_sound (env : Env) (g : Gate) (ok : Array Bool)
    (hrules : ∀ i, i < env.rules.size → ok[i]! = true → chk env.genv g ok (env.rules[i]!) = true) : ∀ fuel,
    (∀ e s, chk env.genv g ok e = true → Good g s → ResOK g (nodeId e) (parseExpr env fuel e s)) ∧
    (∀ e s, chk env.genv g ok e = true → Good g s → ResOK g (nodeId e) (parseNode env fuel e s)) ∧
    (∀ es s p0, chkSeq env.genv g ok es = true → Good g s →
        Good g (parseSeq env fuel es s p0).1 ∧ ((parseSeq env fuel es s p0).1.switched = false → deadAny env.genv g es = true → (parseSeq env fuel es s p0).2 = false)) ∧
    (∀ es s, chkAll env.genv g ok es = true → Good g s →
        Good g (parseChoice env fuel es s).1 ∧ ((parseChoice env fuel es s).1.switched = false → deadAll env.genv g es = true → (parseChoice env fuel es s).2 = false)) ∧
    (∀ e s, chk env.genv g ok e = true → Good g s → Good g (parseStar env fuel e s).1) := by
  intro fuel
  induction fuel with
  | zero =>
    refine ⟨?_, ?_, ?_, ?_, ?_⟩
    · intro e s _ h; simp only [parseExpr]; exact ⟨h.of_view rfl, fun _ _ => by simp⟩
    · intro e s _ h; simp only [parseNode]; exact ⟨h.of_view rfl, fun _ _ => by simp⟩
    · intro es s p0 _ h; simp only [parseSeq]; exact ⟨h.of_view rfl, fun _ _ => by simp⟩
    · intro es s _ h; simp only [parseChoice]; exact ⟨h.of_view rfl, fun _ _ => by simp⟩
    · intro e s _ h; simp only [parseStar]; exact h.of_view rfl
  | succ n ih =>
    obtain ⟨ihE, ihN, ihS, ihC, ihT⟩ := ih
    obtain ⟨mE, mN, mS, mC, mT⟩ := switched_mono env n
    -- the clause for `parseExpr`, with the node's id read as `dead` (which is what `chk` makes of it)
    have ihD : ∀ e s, chk env.genv g ok e = true → Good g s → Res g (dead env.genv g e) (parseExpr env n e s) :=
      fun e s hc h => chk_id _ _ _ e hc ▸ ihE e s hc h
    refine ⟨?_, ?_, ?_, ?_, ?_⟩
    · -- parseExpr: counter, memo hit, memo store
      intro e s hc h
      simp only [parseExpr]
      split
      · exact Res.of_fail (h.of_view rfl)
      · split
        · rename_i b endPos hhit
          refine ⟨h.of_view rfl, fun hsw hid => ?_⟩
          have hget := memoGet_eq_some hhit
          split at hget
          · exact (h hsw).m2 _ _ _ _ _ hid hget
          · exact (h hsw).m1 _ _ _ _ _ hid hget
        · obtain ⟨hg', hr'⟩ := ihN e { s with cnt := s.cnt + 1 } hc (h.of_view rfl)
          split
          · refine ⟨fun hsw => ?_, hr'⟩
            have hc' := hg' hsw
            exact ⟨hc'.cfg, hc'.stack, hc'.trace, hc'.m1, memoOK_insert g _ _ _ _ _ _ hc'.m2 (fun hid => hr' hsw hid)⟩
          · refine ⟨fun hsw => ?_, hr'⟩
            have hc' := hg' hsw
            exact ⟨hc'.cfg, hc'.stack, hc'.trace, memoOK_insert g _ _ _ _ _ _ hc'.m1 (fun hid => hr' hsw hid), hc'.m2⟩
    · -- parseNode
      intro e s hc h
      show Res g (g.guardIds.contains (nodeId e)) _
      rw [chk_id env.genv g ok e hc]
      cases e with
      | seq i es =>
        simp only [chk, Bool.and_eq_true] at hc
        simp only [parseNode, dead]
        have r := ihS es s s.pos hc.2 h
        split
        · exact Res.of_fail (r.1.of_view rfl)
        · exact r
      | choice i es =>
        simp only [chk, Bool.and_eq_true] at hc
        simp only [parseNode, dead]
        exact ihC es s hc.2 h
      | action i a e' =>
        simp only [chk, Bool.and_eq_true, Bool.or_eq_true] at hc
        simp only [parseNode, dead]
        have r := ihD e' s hc.2 h
        split
        · exact r
        · split
          · rename_i hok
            rcases hc.1.2 with hd | hsafe
            · exact Res.of_switched (foldl_switched env _ _ ((hd ▸ r).switched hok))
            · refine ⟨runAct_good env g a _ hsafe r.1, fun hsw hd => ?_⟩
              rw [r.2 (not_switched_of _ _ (foldl_switched env _ _) hsw) hd] at hok
              cases hok
          · exact Res.of_fail r.1
      | code i a ns =>
        simp only [chk, Bool.and_eq_true] at hc
        simp only [parseNode, dead]
        refine Res.live ?_
        split
        · exact h
        · exact runAct_good env g a s hc.2 h
      | andCode i a =>
        simp only [chk, Bool.and_eq_true] at hc
        simp only [parseNode, dead]
        refine ⟨evalPred_good env g a s hc.2 h, fun hsw hga => ?_⟩
        rw [guard_state env g a s hga] at hsw
        exact guard_fails env g a s hga (h hsw)
      | and_ i e' =>
        simp only [chk, Bool.and_eq_true] at hc
        simp only [parseNode, dead]
        have r := ihD e' { s with skip := s.skip + 1 } hc.2 (h.of_view rfl)
        exact ⟨r.1.of_view rfl, r.2⟩
      | andLogical i e' =>
        simp only [chk, Bool.and_eq_true] at hc
        simp only [parseNode, dead]
        exact Res.live ((ihD e' { s with skip := s.skip + 1 } hc.2 (h.of_view rfl)).1.of_view rfl)
      | not_ i e' =>
        simp only [chk, Bool.and_eq_true] at hc
        simp only [parseNode, dead]
        exact Res.live ((ihD e' { s with skip := s.skip + 1 } hc.2 (h.of_view rfl)).1.of_view rfl)
      | any i =>
        simp only [parseNode, dead]
        refine Res.live ?_
        split
        · exact h
        · exact h.of_view (advance_moved env s).view
      | lit i rs ic =>
        simp only [parseNode, dead]
        exact Res.live (h.of_view (matchLit_moved env ic s.pos rs s).view)
      | cls i cs rs cl inv ic =>
        simp only [parseNode, dead]
        refine Res.live ?_
        split
        · exact h
        · split
          · exact h.of_view (advance_moved env s).view
          · exact h
      | star i e' =>
        simp only [chk, Bool.and_eq_true] at hc
        simp only [parseNode, dead]
        exact Res.live (ihT e' s hc.2 h)
      | plus i e' =>
        simp only [chk, Bool.and_eq_true] at hc
        simp only [parseNode, dead]
        have r := ihD e' s hc.2 h
        split
        · rename_i hok
          refine ⟨ihT e' _ hc.2 r.1, fun hsw hd => ?_⟩
          rw [r.2 (not_switched_of _ _ (mT e' _) hsw) hd] at hok
          cases hok
        · exact Res.of_fail r.1
      | opt i e' =>
        simp only [chk, Bool.and_eq_true] at hc
        simp only [parseNode, dead]
        exact Res.live (ihD e' s hc.2 h).1
      | labeled i l tc e' =>
        simp only [chk, Bool.and_eq_true] at hc
        simp only [parseNode, dead]
        have r := ihD e' s hc.2 h
        split
        · rename_i hcond
          refine ⟨r.1.of_view rfl, fun hsw hd => ?_⟩
          rw [r.2 hsw hd] at hcond
          simp at hcond
        · exact r
      | ref i idx =>
        simp only [chk, Bool.and_eq_true, decide_eq_true_eq] at hc
        simp only [parseNode, dead]
        exact Res.live ((ihE _ { s with labels := [] } (hrules idx hc.2 hc.1.2) (h.of_view rfl)).1.of_view rfl)
    · -- parseSeq
      intro es s p0 hc h
      cases es with
      | nil => simp only [parseSeq]; exact ⟨h, fun _ hd => by simp [deadAny] at hd⟩
      | cons e r =>
        simp only [chkSeq, Bool.and_eq_true, Bool.or_eq_true] at hc
        simp only [parseSeq, deadAny]
        have re := ihD e s hc.1 h
        split
        · rename_i hok
          rcases hc.2 with hd | hrest
          · -- `e` cannot succeed while blocked but did: a macro has run; the rest is unconstrained, `switched` stays set
            exact Res.of_switched (mS r p0 _ ((hd ▸ re).switched hok))
          · have rr := ihS r _ p0 hrest re.1
            refine ⟨rr.1, fun hsw hd => ?_⟩
            rcases Bool.or_eq_true _ _ ▸ hd with hd | hd
            · rw [re.2 (not_switched_of _ _ (mS r p0 _) hsw) hd] at hok
              cases hok
            · exact rr.2 hsw hd
        · exact Res.of_fail (re.1.of_view rfl)
    · -- parseChoice
      intro es s hc h
      cases es with
      | nil => simp only [parseChoice]; exact ⟨h, fun _ _ => by simp⟩
      | cons e r =>
        simp only [chkAll, Bool.and_eq_true] at hc
        simp only [parseChoice, deadAll]
        have re := ihD e s hc.1 h
        split
        · rename_i hok
          refine ⟨re.1, fun hsw hd => ?_⟩
          rw [re.2 hsw (Bool.and_eq_true _ _ ▸ hd).1] at hok
          cases hok
        · have rr := ihC r _ hc.2 re.1
          exact ⟨rr.1, fun hsw hd => rr.2 hsw (Bool.and_eq_true _ _ ▸ hd).2⟩
    · -- parseStar
      intro e s hc h
      simp only [parseStar]
      have := (ihE e s hc h).1
      split
      · exact ihT e _ hc this
      · exact this

end DS.Peg
