/-
  Look-ahead is pure: in skip-code mode the engine changes nothing of ParserData (flags, flags stack, loop bookkeeping,
  emitted code).  Engine-generic; the static side condition (`skipOK`: code predicates have no effect other than recording an
  error, no code block is marked notSkip) is evaluated on the regenerated grammar in Props/C03.
-/
import DS.Proofs.PegBasics

namespace DS.Peg

def isAddErr : Eff → Bool
  | .addErr => true
  | _ => false

mutual
def skipOK (acts : Array Act) (nrules : Nat) : PExpr → Bool
  | .seq _ es | .choice _ es => skipOKL acts nrules es
  | .action _ _ e | .and_ _ e | .andLogical _ e | .not_ _ e | .star _ e | .plus _ e | .opt _ e | .labeled _ _ _ e => skipOK acts nrules e
  | .code _ _ notSkip => !notSkip
  | .andCode _ a => ((acts[a]!).effs).all isAddErr
  | .ref _ idx => decide (idx < nrules)
  | _ => true
def skipOKL (acts : Array Act) (nrules : Nat) : List PExpr → Bool
  | [] => true
  | e :: r => skipOK acts nrules e && skipOKL acts nrules r
end

/-- the ParserData part of the state (everything but text position, memo tables, counters, error flag, labels) -/
structure Same (s s' : PState) : Prop where
  cfg : s'.cfg = s.cfg
  stack : s'.flagsStack = s.flagsStack
  loopLayer : s'.loopLayer = s.loopLayer
  opens : s'.opens = s.opens
  loopInfo : s'.loopInfo = s.loopInfo
  trace : s'.trace = s.trace
  switched : s'.switched = s.switched
  skip : s'.skip = s.skip

/-- the fields `Same` compares, as one value: two states are `Same` iff their `pdata` are equal, and equations compose and
    see through record updates by `rfl` where a structure does not -/
def pdata (s : PState) := (s.cfg, s.flagsStack, s.loopLayer, s.opens, s.loopInfo, s.trace, s.switched, s.skip)

theorem same_iff {s s' : PState} : Same s s' ↔ pdata s' = pdata s := by
  simp only [pdata, Prod.mk.injEq]
  exact ⟨fun ⟨a, b, c, d, e, f, g, h⟩ => ⟨a, b, c, d, e, f, g, h⟩, fun ⟨a, b, c, d, e, f, g, h⟩ => ⟨a, b, c, d, e, f, g, h⟩⟩

theorem Moved.pdata {s s' : PState} : Moved s s' → pdata s' = pdata s
  | ⟨_, _, _, h⟩ => h ▸ rfl

theorem addErr_pdata (env : Env) : ∀ (l : List Eff) (s : PState), l.all isAddErr = true → pdata (l.foldl (runEff env) s) = pdata s
  | [], _, _ => rfl
  | e :: r, s, h => by
    simp only [List.all_cons, Bool.and_eq_true] at h
    cases e <;> simp only [isAddErr] at h <;> try (cases h.1)
    exact addErr_pdata env r (runEff env s .addErr) h.2

/-- leaving a look-ahead: the nesting count goes back down, the text position is restored -/
theorem leave_pdata {s r : PState} (p0 : Nat) (h : pdata r = pdata { s with skip := s.skip + 1 }) :
    pdata { r with skip := r.skip - 1, pos := p0 } = pdata s := by
  simp only [pdata, Prod.mk.injEq] at h ⊢
  obtain ⟨a, b, c, d, e, f, g, k⟩ := h
  exact ⟨a, b, c, d, e, f, g, by omega⟩

def Pure (f : PState → PState × Bool) : Prop := ∀ s, s.skip > 0 → Same s (f s).1

theorem skip_pure (env : Env) (hrules : ∀ i, i < env.rules.size → skipOK env.acts env.rules.size (env.rules[i]!) = true) : ∀ fuel,
    (∀ e, skipOK env.acts env.rules.size e = true → Pure (parseExpr env fuel e)) ∧
    (∀ e, skipOK env.acts env.rules.size e = true → Pure (parseNode env fuel e)) ∧
    (∀ es p0, skipOKL env.acts env.rules.size es = true → Pure (fun s => parseSeq env fuel es s p0)) ∧
    (∀ es, skipOKL env.acts env.rules.size es = true → Pure (parseChoice env fuel es)) ∧
    (∀ e, skipOK env.acts env.rules.size e = true → Pure (parseStar env fuel e)) := by
  simp only [Pure, same_iff]
  intro fuel
  induction fuel with
  | zero => refine ⟨?_, ?_, ?_, ?_, ?_⟩ <;> intros <;> simp only [parseExpr, parseNode, parseSeq, parseChoice, parseStar] <;> rfl
  | succ n ih =>
    obtain ⟨ihE, ihN, ihS, ihC, ihT⟩ := ih
    have skip_eq : ∀ {s r : PState}, pdata r = pdata s → r.skip = s.skip := fun h => congrArg (·.2.2.2.2.2.2.2) h
    refine ⟨?_, ?_, ?_, ?_, ?_⟩
    · intro e hc s hs
      simp only [parseExpr]
      split
      · rfl
      · split
        · rfl
        · -- unfold `pdata` first: asked whether the updated memo table is the old one, the unifier takes the hash map apart
          have := ihN e hc { s with cnt := s.cnt + 1 } hs
          split <;> simp only [pdata] at this ⊢ <;> exact this
    · intro e hc s hs
      cases e with
      | seq i es =>
        simp only [skipOK] at hc
        simp only [parseNode]
        split <;> exact ihS es s.pos hc s hs
      | choice i es => simp only [parseNode]; exact ihC es hc s hs
      | action i a e' =>
        simp only [parseNode]
        split
        · exact ihE e' hc s hs
        · omega
      | code i a ns =>
        simp only [skipOK, Bool.not_eq_true'] at hc
        simp only [parseNode]
        split
        · rfl
        · rename_i hcond
          simp only [hc, Bool.not_false, Bool.true_and, decide_eq_true_eq] at hcond
          omega
      | andCode i a =>
        simp only [skipOK] at hc
        simp only [parseNode, evalPred]
        have := addErr_pdata env _ s hc
        split
        · exact this
        · exact this
        · exact (prepareCustom_moved env _).pdata.trans this
        · exact this
        · exact this
        · exact this
      | and_ i e' => simp only [parseNode]; exact leave_pdata s.pos (ihE e' hc { s with skip := s.skip + 1 } (Nat.succ_pos _))
      | andLogical i e' => simp only [parseNode]; exact leave_pdata s.pos (ihE e' hc { s with skip := s.skip + 1 } (Nat.succ_pos _))
      | not_ i e' => simp only [parseNode]; exact leave_pdata s.pos (ihE e' hc { s with skip := s.skip + 1 } (Nat.succ_pos _))
      | any i =>
        simp only [parseNode]
        split
        · rfl
        · exact (advance_moved env s).pdata
      | lit i rs ic => simp only [parseNode]; exact (matchLit_moved env ic s.pos rs s).pdata
      | cls i cs rs cl inv ic =>
        simp only [parseNode]
        split
        · rfl
        · split
          · exact (advance_moved env s).pdata
          · rfl
      | star i e' => simp only [parseNode]; exact ihT e' hc s hs
      | plus i e' =>
        simp only [parseNode]
        have h1 := ihE e' hc s hs
        split
        · exact (ihT e' hc _ (skip_eq h1 ▸ hs)).trans h1
        · exact h1
      | opt i e' => simp only [parseNode]; exact ihE e' hc s hs
      | labeled i l tc e' =>
        simp only [parseNode]
        split <;> exact ihE e' hc s hs
      | ref i idx =>
        simp only [skipOK, decide_eq_true_eq] at hc
        simp only [parseNode]
        exact ihE _ (hrules idx hc) { s with labels := [] } hs
    · intro es p0 hc s hs
      cases es with
      | nil => simp only [parseSeq]
      | cons e r =>
        simp only [skipOKL, Bool.and_eq_true] at hc
        simp only [parseSeq]
        have h1 := ihE e hc.1 s hs
        split
        · exact (ihS r p0 hc.2 _ (skip_eq h1 ▸ hs)).trans h1
        · exact h1
    · intro es hc s hs
      cases es with
      | nil => simp only [parseChoice]
      | cons e r =>
        simp only [skipOKL, Bool.and_eq_true] at hc
        simp only [parseChoice]
        have h1 := ihE e hc.1 s hs
        split
        · exact h1
        · exact (ihC r hc.2 _ (skip_eq h1 ▸ hs)).trans h1
    · intro e hc s hs
      simp only [parseStar]
      have h1 := ihE e hc s hs
      split
      · exact (ihT e hc _ (skip_eq h1 ▸ hs)).trans h1
      · exact h1

end DS.Peg
