/- lemmas about the makeDetailStr model itself (C14) -/
import DS.Model.Detail

namespace DS.Detail

theorem slice_eq_some {buf : List Nat} {b e : Nat} (h1 : b ≤ e) (h2 : e ≤ buf.length) :
    slice buf b e = some ((buf.take e).drop b) := if_pos ⟨h1, h2⟩

theorem spliceGroups_append (n : Nat) : ∀ (a b : List Group) (buf : List Nat),
    spliceGroups n (a ++ b) buf = (spliceGroups n a buf).bind (spliceGroups n b)
  | [], _, _ => rfl
  | g :: a, b, buf => by
    simp only [List.cons_append, spliceGroups]
    cases renderGroup buf n g with
    | none => rfl
    | some buf' => exact spliceGroups_append n a b buf'

end DS.Detail
