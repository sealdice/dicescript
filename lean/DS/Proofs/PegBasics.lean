/- what the text-level primitives of the engine model leave alone -/
import DS.Model.Peg

namespace DS.Peg

/-- `s'` differs from `s` at most in the text position, the error flag and the pending custom-dice match: what reading text can change -/
def Moved (s s' : PState) : Prop := ∃ p e pd, s' = { s with pos := p, errs := e, pending := pd }

theorem Moved.refl (s : PState) : Moved s s := ⟨_, _, _, rfl⟩

theorem Moved.trans {a b c : PState} : Moved a b → Moved b c → Moved a c
  | ⟨_, _, _, h1⟩, ⟨_, _, _, h2⟩ => ⟨_, _, _, by rw [h2, h1]⟩

theorem advance_moved (env : Env) (s : PState) : Moved s (advance env s) := by
  simp only [advance]; split <;> exact ⟨_, _, _, rfl⟩

theorem advanceTo_moved (env : Env) (t : Nat) : ∀ (fuel : Nat) (s : PState), Moved s (advanceTo env t fuel s)
  | 0, s => .refl s
  | n+1, s => by
    simp only [advanceTo]
    split
    · exact (advance_moved env s).trans (advanceTo_moved env t n _)
    · exact .refl s

theorem matchLit_moved (env : Env) (ic : Bool) (p0 : Nat) : ∀ (l : List Nat) (s : PState), Moved s (matchLit env ic p0 l s).1
  | [], s => .refl s
  | _ :: r, s => by
    simp only [matchLit]
    split
    · exact ⟨_, _, _, rfl⟩
    · exact (advance_moved env s).trans (matchLit_moved env ic p0 r _)

theorem prepareCustom_moved (env : Env) (s : PState) : Moved s (prepareCustom env s).1 := by
  simp only [prepareCustom]
  split
  · exact ⟨_, _, _, rfl⟩
  · split
    · exact Moved.trans ⟨_, _, _, rfl⟩ (advanceTo_moved env _ _ _)
    · exact ⟨_, _, _, rfl⟩

theorem consumeCustom_moved (env : Env) (s : PState) : Moved s (consumeCustom env s) := by
  simp only [consumeCustom]
  split
  · exact ⟨_, _, _, rfl⟩
  · exact Moved.trans ⟨_, _, _, rfl⟩ (advanceTo_moved env _ _ _)

end DS.Peg
