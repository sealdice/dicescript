/-
  C10 — deserialising untrusted JSON never yields a booby-trapped value.  Property theorems only.
  In the model a decoded value cannot contain a nil pointer or a TypeId whose payload has another dynamic
  type (the type `V` has no such inhabitants; the json stream ties that to the real decoder, whose
  canonical rendering prints NIL / N? / i? for them).  What remains to prove is that the payloads are
  within the ranges the operations assume.
-/
import DS.Proofs.JsonLemmas

namespace DS.Props.C10
open DS.Json DS.Proofs.JsonL

mutual
  /-- well-typed: integers fit int64, native functions have an implementation, recursively -/
  def WT : V → Bool
    | .int i => decide (minInt64 ≤ i ∧ i ≤ maxInt64)
    | .arr l => WTList l
    | .dict kv => WTEntries kv
    | .computed _ (some m) => WTEntries m
    | .nativeFn n => builtinNames.contains n
    | _ => true
  def WTList : List V → Bool
    | [] => true
    | v :: r => WT v && WTList r
  def WTEntries : List (String × V) → Bool
    | [] => true
    | (_, v) :: r => WT v && WTEntries r
end

theorem asInt_range {o : Option J} {i : Int} (h : asInt o = .ok i) : minInt64 ≤ i ∧ i ≤ maxInt64 := by
  unfold asInt at h
  repeat' split at h
  all_goals cases h
  · decide
  · decide
  · assumption

/-! The payload decoders take the list / map decoders of the level below as parameters `dl` / `dm`, and so do
    these lemmas; fuel comes in only where the knot is tied, in `decode_welltyped`.  Each proof goes through the
    branches of its decoder: the failing ones contradict `h`, the others say what `v` is. -/
section
variable {dl : List J → Except Unit (List V)} {dm : J → Except Unit (List (String × V))} {o : Option J} {v : V}

theorem decComputed_wt (hm : ∀ j m, dm j = .ok m → WTEntries m = true) (h : decComputed dm o = .ok v) :
    WT v = true := by
  unfold decComputed at h
  repeat' split at h
  all_goals cases h
  · rfl
  · exact hm _ _ ‹_›

theorem decArray_wt (hl : ∀ l vs, dl l = .ok vs → WTList vs = true) (h : decArray dl o = .ok v) :
    WT v = true := by
  unfold decArray at h
  repeat' split at h
  all_goals cases h
  · rfl
  · rfl
  · exact hl _ _ ‹_›

theorem decDict_wt (hm : ∀ j m, dm j = .ok m → WTEntries m = true) (h : decDict dm o = .ok v) :
    WT v = true := by
  unfold decDict at h
  repeat' split at h
  all_goals cases h
  · rfl
  · exact hm _ _ ‹_›

theorem decFunc_wt (h : decFunc o = .ok v) : WT v = true := by
  unfold decFunc at h
  repeat' split at h
  all_goals cases h
  rfl

theorem decNativeFn_wt (h : decNativeFn o = .ok v) : WT v = true := by
  unfold decNativeFn at h
  repeat' split at h
  all_goals cases h
  assumption

theorem decNativeObj_wt (h : decNativeObj o = .ok v) : WT v = true := by
  unfold decNativeObj at h
  repeat' split at h
  all_goals cases h
  rfl

theorem decodeByTag_wt (hl : ∀ l vs, dl l = .ok vs → WTList vs = true)
    (hm : ∀ j m, dm j = .ok m → WTEntries m = true) {t : Int} (h : decodeByTag dl dm t o = .ok v) :
    WT v = true := by
  by_cases ht : t ∈ [0, 1, 2, 4, 5, 6, 7, 8, 9, 10]
  · simp only [List.mem_cons, List.not_mem_nil, or_false] at ht
    rcases ht with rfl | rfl | rfl | rfl | rfl | rfl | rfl | rfl | rfl | rfl
    · rw [decodeByTag_int] at h
      cases hi : asInt o <;> rw [hi] at h <;> cases h
      simpa [WT] using asInt_range hi
    · rw [decodeByTag_float] at h
      cases hf : asFloat o <;> rw [hf] at h <;> cases h
      rfl
    · rw [decodeByTag_str] at h
      cases hs : asString o <;> rw [hs] at h <;> cases h
      rfl
    · cases h; rfl
    · exact decComputed_wt hm h
    · exact decArray_wt hl h
    · exact decDict_wt hm h
    · exact decFunc_wt h
    · exact decNativeFn_wt h
    · exact decNativeObj_wt h
  · rw [decodeByTag_unknown dl dm o ht] at h
    cases h; rfl
end

/-! `decodeList`, `decodeEntries` and `decodeMap` hand every element to `decode` at the same fuel. -/
section
variable {fuel : Nat} (hd : ∀ j v, decode fuel j = .ok v → WT v = true)
include hd

theorem decodeList_wt : ∀ l vs, decodeList fuel l = .ok vs → WTList vs = true
  | [], vs, h => by rw [decodeList] at h; cases h; rfl
  | j :: rest, vs, h => by
    unfold decodeList at h
    split at h
    · cases h
    · split at h <;> cases h
      rename_i v r hv hr
      simp [WTList, hd _ _ hv, decodeList_wt rest r hr]

theorem decodeEntries_wt : ∀ kv m, decodeEntries fuel kv = .ok m → WTEntries m = true
  | [], m, h => by rw [decodeEntries] at h; cases h; rfl
  | (k, j) :: rest, m, h => by
    unfold decodeEntries at h
    split at h
    · cases h
    · split at h <;> cases h
      rename_i v r hv hr
      simp [WTEntries, hd _ _ hv, decodeEntries_wt rest r hr]

theorem decodeMap_wt (j : J) (m : List (String × V)) (h : decodeMap fuel j = .ok m) : WTEntries m = true := by
  cases j <;> simp only [decodeMap] at h <;> try cases h
  · rfl
  · exact decodeEntries_wt hd _ m h
end

/-- C10: for EVERY JSON document (tree) and every nesting depth, decoding either fails or yields a well-typed
    value — integers within int64, every native function bound to an existing implementation, no nil
    anywhere — all the way down through arrays, dicts and computed-value attributes -/
theorem decode_welltyped (fuel : Nat) (j : J) (v : V) (h : decode fuel j = .ok v) : WT v = true := by
  induction fuel generalizing j v with
  | zero => cases j <;> simp [decode] at h
  | succ fuel ih =>
    cases j <;> simp only [decode] at h <;> try cases h
    · rfl
    · split at h
      · cases h
      · exact decodeByTag_wt (decodeList_wt ih) (decodeMap_wt ih) h

/-- the same for a whole variable map (ValueMap.UnmarshalJSON) -/
theorem decodeMap_welltyped (fuel : Nat) (j : J) (m : List (String × V)) (h : decodeMap fuel j = .ok m) :
    WTEntries m = true :=
  decodeMap_wt (decode_welltyped fuel) j m h

/-- an unknown native function name is a decode error (the repaired defect, see known_findings.json) -/
theorem unknown_native_rejected (fuel : Nat) :
    decode (fuel + 1) (tagObj 9 (some (.obj [(fkey .name "name", .str "nosuch")]))) = .error () := by
  rw [decode_tagObj (by omega) (by decide), decodeByTag_nativeFn]
  simp [decNativeFn, asObj, lookup, fkey, asString, builtinNames]

/-- a null element is a decode error (the repaired defect) -/
theorem null_element_rejected (fuel : Nat) :
    decode (fuel + 1) (tagObj 6 (some (.obj [(fkey .list "list", .arr [.null])]))) = .error () := by
  rw [decode_tagObj (by omega) (by decide), decodeByTag_array]
  simp [decArray, asObj, lookup, fkey, decodeList]

end DS.Props.C10
