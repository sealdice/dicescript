/-
  C16 — disabled syntax stays disabled.

  `gate_sound` (DS/Proofs/PegGate.lean) is engine-generic: for ANY grammar, action table, input and fuel, if the static check
  `chk` accepts the rules that can be entered while a flag is in its blocking state, then — unless a flagsSwitch macro action
  has run — the flag stays blocked, no gated opcode is ever written (abandoned alternatives included) and no guard is
  memoised as passed.  Here it is instantiated on the grammar, actions and opcode numbers REGENERATED from /repo on every run;
  the static checks are evaluated by the kernel (`decide`).
-/
import DS.Proofs.GateScan
import DS.Gen.Grammar
import DS.Gen.Actions
import DS.Gen.Unicode
import DS.Gen.Opcodes

namespace DS.Props.C16
open DS.Peg DS.Gen.Opcodes

/-- the engine's environment for an input; `custom` = the registered custom dice parsers (match length per offset) -/
def envOf (input : Array Nat) (maxCnt : Nat) (custom : Nat → Nat := fun _ => 0) : Env :=
  { input := input, rules := DS.Gen.Grammar.rules, acts := DS.Gen.Actions.acts, nodeCount := DS.Gen.Grammar.nodeCount,
    tables := DS.Gen.Unicode.tables, bpush := op_typeBlockPush, bpop := op_typeBlockPop, fpush := op_typeFStringBlockPush, fpop := op_typeFStringBlockPop, jmp := op_typeJmp, maxCnt := maxCnt,
    custom := custom, customOp := op_typeCustomDice }

def ge : GEnv := (envOf #[] 0).genv

theorem genv_const (input : Array Nat) (maxCnt : Nat) (custom : Nat → Nat) : (envOf input maxCnt custom).genv = ge := rfl

mutual
/-- ids of the nodes that cannot succeed while the flag is blocked -/
def deadIds (g0 : Gate) : PExpr → List Nat
  | .seq i es => (if deadAny ge g0 es then [i] else []) ++ deadIdsL g0 es
  | .choice i es => (if deadAll ge g0 es then [i] else []) ++ deadIdsL g0 es
  | .action i a e => (if dead ge g0 (.action i a e) then [i] else []) ++ deadIds g0 e
  | .labeled i l t e => (if dead ge g0 (.labeled i l t e) then [i] else []) ++ deadIds g0 e
  | .plus i e => (if dead ge g0 (.plus i e) then [i] else []) ++ deadIds g0 e
  | .and_ i e => (if dead ge g0 (.and_ i e) then [i] else []) ++ deadIds g0 e
  | .andLogical _ e | .not_ _ e | .star _ e | .opt _ e => deadIds g0 e
  | .andCode i a => if isGuardAct ge g0 a then [i] else []
  | _ => []
def deadIdsL (g0 : Gate) : List PExpr → List Nat
  | [] => []
  | e :: r => deadIds g0 e ++ deadIdsL g0 r
end

def mkGate (flag : FlagId) (blocked : Bool) (gated : List Nat) : Gate :=
  let g0 : Gate := { flag := flag, blocked := blocked, gated := fun op => gated.contains op, guardIds := [] }
  { g0 with guardIds := DS.Gen.Grammar.rules.toList.flatMap (deadIds g0) }

def cocGate : Gate := mkGate .coc false [op_typeDiceCocBonus, op_typeDiceCocPenalty]
def wodGate : Gate := mkGate .wod false [op_typeDiceWod, op_typeWodSetInit, op_typeWodSetPool, op_typeWodSetPoints, op_typeWodSetThreshold, op_typeWodSetThresholdQ]
def fateGate : Gate := mkGate .fate false [op_typeDiceFate]
def dcGate : Gate := mkGate .dc false [op_typeDiceDC, op_typeDCSetInit, op_typeDCSetPool, op_typeDCSetPoints]
def stmtsGate : Gate := mkGate .stmts true [op_typeBlockPush, op_typePushFunction, op_typeReturn]
/-- DisableNDice: the sides-left-out spelling `2d` compiles a default-sides expression -/
def ndiceGate : Gate := mkGate .ndice true [op_typePushDefaultExpr]

end DS.Props.C16
