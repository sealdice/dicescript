/-
  C19 — syntax errors point at the right place in the chosen language.  Property theorems only.
  The engine can only ever hold positions produced by `read` (savepoints, memo entries and maxFailPos are
  copies of p.pt), so statements about `readN input k` for all k cover every reportable position.
-/
import DS.Proofs.ErrFmtLemmas

namespace DS.Props.C19
open DS.ErrFmt DS.Proofs.ErrL

/-- the reported byte offset lies within the input (and so does the end of the current rune) -/
theorem pos_within (input : List Nat) (k : Nat) :
    (readN input k).offset ≤ input.length ∧ (readN input k).offset + (readN input k).w ≤ input.length := by
  have := (readInv input k).bound
  omega

/-- the offset is a rune boundary: the bytes from the offset on are what is left after the first k−1 runes -/
theorem pos_offset_is_rune_boundary (input : List Nat) (k : Nat) (hk : 0 < k) :
    input.drop (readN input k).offset = dropRunes (k - 1) input ∧
    (readN input k).rn = (decodeRune (dropRunes (k - 1) input)).1 := by
  obtain ⟨h1, h2⟩ := (readInv input k).cur hk
  exact ⟨h2, h1⟩

theorem sinceNewline_no_nl : ∀ (rs : List Nat), rs.contains 10 = false → sinceNewline rs = rs.length
  | [], _ => rfl
  | r :: rs, h => by
    simp only [List.contains_cons, Bool.or_eq_false_iff] at h
    have hr : (r == 10) = false := beq_eq_false_iff_ne.2 (Ne.symm (beq_eq_false_iff_ne.1 h.1))
    simp only [sinceNewline, h.2, hr, Bool.false_eq_true, if_false, List.length_cons]

/-- line and column in closed form: what the engine holds after k reads, by whether the current rune is a newline -/
theorem pos_closed_form (input : List Nat) (k : Nat) (hk : 0 < k) :
    ((readN input k).rn ≠ 10 →
      ((readN input k).line, (readN input k).col) = lineColSpec (runes (k - 1) input)) ∧
    ((readN input k).rn = 10 →
      ((readN input k).line, (readN input k).col) = ((lineColSpec (runes (k - 1) input)).1 + 1, 0)) := by
  obtain ⟨j, rfl⟩ : ∃ j, k = j + 1 := ⟨k - 1, by omega⟩
  have inv := readInv input (j + 1)
  have hrn : (readN input (j + 1)).rn = (decodeRune (dropRunes j input)).1 := (inv.cur hk).1
  have hl := inv.line
  have hc := inv.col
  rw [runes_succ_back, ← hrn] at hl hc
  rw [List.count_append, List.count_singleton] at hl
  rw [sinceNewline_concat] at hc
  simp only [Nat.add_sub_cancel, lineColSpec, hl, hc]
  constructor <;> intro h <;> simp [h] <;> omega

/-- C19, position clause: whenever the rune at the reported offset is not a newline, the reported line and
    column ARE the line and column of that offset (1 + newlines before it, 1 + runes since the last newline) -/
theorem pos_consistent (input : List Nat) (k : Nat) (hk : 0 < k) (hn : (readN input k).rn ≠ 10) :
    ((readN input k).line, (readN input k).col) = lineColSpec (runes (k - 1) input) :=
  (pos_closed_form input k hk).1 hn

/-- the full statement, kept visible: line/column of every reportable position are those of its offset -/
def pos_consistent_full : Prop :=
  ∀ (input : List Nat) (k : Nat), 0 < k →
    ((readN input k).line, (readN input k).col) = lineColSpec (runes (k - 1) input)

/-- KNOWN FINDING witness: in `(1.\n)` the position of the newline rune (offset 3) is reported as 2:0,
    while offset 3 is line 1, column 4 -/
theorem KF_newline_position_witness : ¬ pos_consistent_full := by
  intro h
  have := h [40, 49, 46, 10, 41] 4 (by decide)
  revert this
  decide

/-! ### what fmtErr prints -/

/-- the context block: the quoted line, then a caret preceded by exactly col−1 blanks -/
def ctxBlock (input : List Nat) (line col : Nat) : List Nat :=
  if input.length > 0 then
    utf8 "  |\n  |  " ++ getLineAt input line ++ utf8 "\n  |  " ++ List.replicate (col - 1) 32 ++ utf8 "^\n  |\n"
  else []

def posText (line col : Nat) : List Nat := natStr line ++ utf8 ":" ++ natStr col ++ utf8 " - "

/-- Chinese setting: header, position line and message are the Chinese ones only -/
theorem fmtErr_chinese_only (line col : Nat) (input : List Nat) (m : Msg) (ch : Nat) :
    fmtErr 1 line col input m ch =
      utf8 "语法错误\n" ++ ctxBlock input line col ++ (utf8 "  位置 " ++ posText line col ++ render (msgCN m) ch) := by
  simp [fmtErr, ctxBlock, posText]

/-- English setting: header, position line and message are the English ones only -/
theorem fmtErr_english_only (line col : Nat) (input : List Nat) (m : Msg) (ch : Nat) :
    fmtErr 2 line col input m ch =
      utf8 "Syntax Error\n" ++ ctxBlock input line col ++ (utf8 "  Pos " ++ posText line col ++ render (msgEN m) ch) := by
  simp [fmtErr, ctxBlock, posText]

/-- bilingual setting (0 and every other value): both, Chinese first -/
theorem fmtErr_bilingual (lang line col : Nat) (hl : lang ≠ 1) (hl' : lang ≠ 2) (input : List Nat) (m : Msg) (ch : Nat) :
    fmtErr lang line col input m ch =
      utf8 "语法错误 Syntax Error\n" ++ ctxBlock input line col ++
        (utf8 "  位置 " ++ posText line col ++ render (msgCN m) ch ++ utf8 "\n  Pos " ++ posText line col ++ render (msgEN m) ch) := by
  have h1 : (lang == 1) = false := by simp [hl]
  have h2 : (lang == 2) = false := by simp [hl']
  simp [fmtErr, ctxBlock, posText, h1, h2]

/-- there is one more line than there are newline bytes -/
theorem splitLines_length : ∀ (bs : List Nat), (splitLines bs).length = 1 + bs.count 10 := by
  intro bs
  induction bs with
  | nil => simp [splitLines]
  | cons b bs ih =>
    by_cases hb : b = 10
    · subst hb
      simp [splitLines, ih]; omega
    · have hb' : (b == 10) = false := by simp [hb]
      have hc : List.count 10 (b :: bs) = List.count 10 bs := by rw [List.count_cons]; simp [hb]
      simp only [splitLines, hb', Bool.false_eq_true, if_false, hc]
      cases hs : splitLines bs with
      | nil => rw [hs] at ih; simp at ih; omega
      | cons l ls => rw [hs] at ih; simpa using ih

/-- no quoted line contains a newline -/
theorem splitLines_no_newline : ∀ (bs : List Nat), ∀ l ∈ splitLines bs, 10 ∉ l := by
  intro bs
  induction bs with
  | nil => intro l hl; simp [splitLines] at hl; subst hl; simp
  | cons b bs ih =>
    intro l hl
    by_cases hb : b = 10
    · subst hb
      simp only [splitLines, beq_self_eq_true, if_true, List.mem_cons] at hl
      rcases hl with rfl | hl
      · simp
      · exact ih l hl
    · have hb' : (b == 10) = false := by simp [hb]
      simp only [splitLines, hb', Bool.false_eq_true, if_false] at hl
      cases hs : splitLines bs with
      | nil => rw [hs] at hl; simp at hl; subst hl; simp; omega
      | cons l0 ls =>
        rw [hs] at hl ih
        simp only [List.mem_cons] at hl
        rcases hl with rfl | hl
        · intro hm
          simp only [List.mem_cons] at hm
          rcases hm with h | h
          · omega
          · exact ih l0 (by simp) h
        · exact ih l (by simp [hl])

/-- the quoted line is the `line`-th newline-separated segment, verbatim, when it fits in 60 bytes -/
theorem quoted_line_is_the_line (input : List Nat) (line : Nat) (h1 : 0 < line) (h2 : line ≤ (splitLines input).length)
    (h3 : ((splitLines input).getD (line - 1) []).length ≤ 60) :
    getLineAt input line = (splitLines input).getD (line - 1) [] := by
  unfold getLineAt
  simp only [h1, h2, and_self, if_true]
  unfold truncate60
  have : ¬ ((splitLines input).getD (line - 1) []).length > 60 := by omega
  rw [if_neg this]

/- non-vacuity: `(1 + ` fails at its end: offset 5, line 1, column 6 -/
example : (readN [40, 49, 32, 43, 32] 6).offset = 5 ∧ (readN [40, 49, 32, 43, 32] 6).line = 1 ∧
    (readN [40, 49, 32, 43, 32] 6).col = 6 ∧ (readN [40, 49, 32, 43, 32] 6).rn ≠ 10 := by decide
example : lineColSpec (runes 5 [40, 49, 32, 43, 32]) = (1, 6) := by decide

end DS.Props.C19
