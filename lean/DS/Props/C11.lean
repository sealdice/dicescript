/-
  C11 — independent VMs behave exactly as when run alone.  Property theorems only.
  (Data races in the Go memory-model sense are outside an executable model: the check runs the concurrent
  stream under the race detector as supporting validation.)
-/
import DS.Model.Conc
import DS.Gen.Globals

namespace DS.Props.C11
open DS.Conc

variable {G L : Type}

/-- Isolation, for EVERY number of VMs and EVERY interleaving: if no step of any VM changes the package-level
    state, then after any schedule each VM's local state is exactly what it reaches running alone for the
    number of steps it was given, and the package-level state is untouched. -/
theorem isolation (step : Nat → Step G L) (hro : ∀ i g l, (step i g l).1 = g) :
    ∀ (sched : List Nat) (g : G) (ls : Nat → L),
      (runSched step sched g ls).1 = g ∧
      ∀ i, (runSched step sched g ls).2 i = (runAlone (step i) (sched.count i) g (ls i)).2 := by
  intro sched
  induction sched with
  | nil => intro g ls; exact ⟨rfl, fun i => rfl⟩
  | cons j rest ih =>
    intro g ls
    simp only [runSched]
    have hg : (step j g (ls j)).1 = g := hro j g (ls j)
    rw [hg]
    obtain ⟨ih1, ih2⟩ := ih g (fun k => if k = j then (step j g (ls j)).2 else ls k)
    refine ⟨ih1, ?_⟩
    intro i
    rw [ih2 i]
    by_cases hij : i = j
    · subst hij
      simp only [List.count_cons_self, runAlone, if_true]
      rw [hg]
    · have : List.count i (j :: rest) = List.count i rest := by
        rw [List.count_cons]; simp [Ne.symm hij]
      simp only [hij, if_false, this]

/-- the converse situation, kept as the witness of the repaired defect: when a step writes the shared
    state (every Parse wrote the language), a VM can observe another VM's value.  VM 0 (language 1) sets the
    global, VM 1 (language 2) sets it, then VM 0 renders: it renders in language 2. -/
theorem KF_shared_language_witness :
    ((runSched (fun i => langStep (i + 1)) [0, 1, 0] 0 (fun _ => (0, 99))).2 0).2 = 2 ∧
    ((runAlone (langStep 1) 2 0 (0, 99)).2).2 = 1 := by
  constructor <;> decide

open DS.Gen.Globals

/-- REGENERATED FACT: the only assignments to package-level variables are the init-time hook registration and
    the public language setter … -/
theorem assignments_are_init_or_setter :
    (touches.filter (fun t => t.2.2 == "assign")) =
      [("ErrorFormatter", "init", "assign"), ("parseErrorLanguage", "SetParseErrorLanguage", "assign")] := rfl

/-- … and nothing in the library calls that setter (Parse no longer does) -/
theorem setter_not_called_by_library :
    (callersOfWriters.filter (fun c => c.1 == "SetParseErrorLanguage")) = [] := by decide

/-- REGENERATED FACT: the one mutable package-level setting (the legacy default language) is READ only by the legacy
    package-level formatter — the per-VM formatter that Parse installs never looks at it, so no VM's messages depend on
    what another VM, or the host through the public setter, did to the package-level value -/
theorem shared_language_read_only_by_legacy_formatter :
    (touches.filter (fun t => t.1 == "parseErrorLanguage" && t.2.2 == "mention")).map (fun t => t.2.1) =
      ["formatFriendlyError"] := by decide

/-- REGENERATED FACT: the package has exactly these package-level variables — the generated parser's tables and sentinel errors, the
    builtin tables (written at init only), the message table, the legacy language default and the locked fallback generator.  A new
    package-level variable (a cache, a pool, a registry) is shared by every VM and has to be argued for here. -/
theorem package_level_state_is_known :
    globals.map (fun g => g.1) =
      ["ErrorFormatter", "binOperator", "builtinProto", "builtinValues", "errInvalidEncoding", "errInvalidEntrypoint", "errMaxExprCnt", "errMaxParseDepth",
       "errMsgs", "errNoRule", "expungedValueMap", "g", "nnf", "parseErrorLanguage", "randSource", "randSourceMu"] := rfl

/-- REGENERATED FACT: the package-level random source is only used by Roll (fallback for unseeded contexts) and
    GetCurSeed, and both take randSourceMu -/
theorem global_source_is_locked :
    (touches.filter (fun t => t.1 == "randSource")).map (fun t => t.2.1) = ["GetCurSeed", "Roll"] ∧
    lockHolders.contains ("Roll", "randSourceMu") = true ∧ lockHolders.contains ("GetCurSeed", "randSourceMu") = true := by
  decide

/-- REGENERATED FACT: the shared builtin tables are never assigned after package initialisation (they are only
    mentioned — read — by lookups; `_init`/`_init2` run at package init) -/
theorem builtin_tables_read_only :
    (touches.filter (fun t => (t.1 == "builtinValues" || t.1 == "builtinProto") && t.2.2 != "mention")) = [] := by decide

end DS.Props.C11
