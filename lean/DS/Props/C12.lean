/-
  C12 — ValueMap is a correct map (sequential part): for EVERY history of Store, Load, LoadOrStore,
  LoadAndDelete, Delete, Clear, Range and Length calls the results equal those of an ordinary
  string-keyed map.  Refinement of the two-level read/dirty model to `String → Option α`.
  Property theorems only (helper lemmas: DS/Proofs/VMapLemmas.lean).
-/
import DS.Proofs.VMapLemmas

namespace DS.Props.C12
open DS.VMap DS.Proofs.VMapL

variable {α : Type}

/-- the ordinary map: what each operation does to the contents -/
def specNext (m : String → Option α) : Op α → (String → Option α)
  | .load _ => m
  | .store k v => upd m k (some v)
  | .loadOrStore k v => match m k with
    | some _ => m
    | none => upd m k (some v)
  | .loadAndDelete k => upd m k none
  | .delete k => upd m k none
  | .clear => fun _ => none
  | .range => m
  | .length => m

/-- `l` lists exactly the live pairs of `m`, each key once -/
def LivePairs (m : String → Option α) (l : List (String × α)) : Prop :=
  (l.map Prod.fst).Nodup ∧ ∀ k v, (k, v) ∈ l ↔ m k = some v

/-- the ordinary map: what each operation returns -/
def RetOK (m : String → Option α) : Op α → Ret α → Prop
  | .load k, r => r = .val (m k)
  | .store _ _, r => r = .unit
  | .loadOrStore k v, r => r = (match m k with
    | some x => .los x true
    | none => .los v false)
  | .loadAndDelete k, r => r = .val (m k)
  | .delete _, r => r = .unit
  | .clear, r => r = .unit
  | .range, r => ∃ l, r = .pairs l ∧ LivePairs m l
  | .length, r => ∃ l, r = .len l.length ∧ LivePairs m l

/-! ### one theorem per operation: invariant kept, return value and new contents as the ordinary map -/

theorem load_refines (s : St α) (hi : Inv s) (k : String) :
    Inv (load s k).2 ∧ (load s k).1 = abs s k ∧ abs (load s k).2 = abs s := by
  cases hr : s.inRead k with
  | true => rw [load_read s k hr]; exact ⟨hi, rfl, rfl⟩
  | false =>
    cases ha : s.amended with
    | true =>
      rw [load_dirty s k hr ha]
      have hd := hi.amended_dirty ha
      exact ⟨inv_missLocked hi, dirty_lookup hi hd k, abs_missLocked hi hd⟩
    | false =>
      rw [load_none s k hr ha]
      exact ⟨hi, (abs_none_of_not_read hi ha hr).symm, rfl⟩

theorem store_refines (s : St α) (hi : Inv s) (k : String) (v : α) :
    Inv (store s k v) ∧ abs (store s k v) = upd (abs s) k (some v) := by
  cases hr : s.inRead k with
  | true =>
    have hk : k ∈ s.dom := (hi.dom_iff k).2 (Or.inl hr)
    cases he : isExpunged (s.ent k) with
    | true =>
      rw [store_unexp s k v hr he]
      exact ⟨inv_unexpunge hi k v (isExpunged_iff.1 he), abs_upd (some (.val v)) rfl⟩
    | false =>
      rw [store_fast s k v hr he]
      exact ⟨inv_set hi k _ nofun hk (fun h => by simp [isExpunged_iff.2 h] at he), abs_upd (some (.val v)) rfl⟩
  | false =>
    cases hd : s.inDirty k with
    | true =>
      rw [store_dirty s k v hr hd]
      exact ⟨inv_set hi k _ nofun ((hi.dom_iff k).2 (Or.inr hd)) (not_expunged_of_not_read hi hr),
        abs_upd (some (.val v)) rfl⟩
    | false =>
      rw [store_new s k v hr hd]
      exact ⟨inv_insertNew hi k v, abs_insertNew s k v⟩

theorem loadOrStore_refines (s : St α) (hi : Inv s) (k : String) (v : α) :
    Inv (loadOrStore s k v).2 ∧
    (loadOrStore s k v).1 = (match abs s k with
      | some x => (x, true)
      | none => (v, false)) ∧
    abs (loadOrStore s k v).2 = (match abs s k with
      | some _ => abs s
      | none => upd (abs s) k (some v)) := by
  have habs : abs s k = slotLoad (s.ent k) := rfl
  cases hr : s.inRead k with
  | true =>
    have hk : k ∈ s.dom := (hi.dom_iff k).2 (Or.inl hr)
    cases he : s.ent k with
    | none => exact absurd he ((hi.ent_iff k).2 hk)
    | some sl =>
      rw [habs, he]
      cases sl with
      | val x => rw [los_read_val s k v x hr he]; exact ⟨hi, rfl, rfl⟩
      | expunged => rw [los_read_exp s k v hr he]; exact ⟨inv_unexpunge hi k v he, rfl, abs_upd (some (.val v)) rfl⟩
      | nil => rw [los_read_nil s k v hr he]; exact ⟨inv_set hi k _ nofun hk (by simp [he]), rfl, abs_upd (some (.val v)) rfl⟩
  | false =>
    cases hd : s.inDirty k with
    | true =>
      have hk : k ∈ s.dom := (hi.dom_iff k).2 (Or.inr hd)
      have hdn : s.dirtyNil = false := Bool.eq_false_iff.2 fun h => by simpa [hd] using hi.nil_dirty h k
      have hne := not_expunged_of_not_read hi hr
      cases he : s.ent k with
      | none => exact absurd he ((hi.ent_iff k).2 hk)
      | some sl =>
        rw [habs, he]
        cases sl with
        | val x =>
          rw [los_dirty_val s k v x hr hd he]
          exact ⟨inv_missLocked hi, rfl, abs_missLocked hi hdn⟩
        | expunged => exact absurd he hne
        | nil =>
          rw [los_dirty_nil s k v hr hd he]
          have hi2 := inv_set hi k (.val v) nofun hk hne
          exact ⟨inv_missLocked hi2, rfl, (abs_missLocked hi2 hdn).trans (abs_upd (some (.val v)) rfl)⟩
    | false =>
      rw [los_new s k v hr hd, abs_none_of_absent hi hr hd]
      exact ⟨inv_insertNew hi k v, rfl, abs_insertNew s k v⟩

theorem loadAndDelete_refines (s : St α) (hi : Inv s) (k : String) :
    Inv (loadAndDelete s k).2 ∧ (loadAndDelete s k).1 = abs s k ∧
    abs (loadAndDelete s k).2 = upd (abs s) k none := by
  cases hr : s.inRead k with
  | true =>
    have hk : k ∈ s.dom := (hi.dom_iff k).2 (Or.inl hr)
    by_cases he : ∃ x, s.ent k = some (.val x)
    · obtain ⟨x, he⟩ := he
      rw [lad_read_val s k x hr he, show abs s k = some x from congrArg slotLoad he]
      exact ⟨inv_set hi k _ nofun hk (by simp [he]), rfl, abs_upd (some .nil) rfl⟩
    · have hdead : ∀ x, s.ent k ≠ some (.val x) := fun x h => he ⟨x, h⟩
      have ha : abs s k = none := by
        show slotLoad (s.ent k) = none
        unfold slotLoad
        split
        · exact absurd ‹_› (hdead _)
        · rfl
      rw [lad_read_dead s k hr hdead, ha]
      exact ⟨hi, rfl, (abs_upd_none_of_none s k ha).symm⟩
  | false =>
    cases ha : s.amended with
    | true =>
      have hdn := hi.amended_dirty ha
      have hi1 := inv_remove hi k hr
      rw [lad_dirty s k hr ha]
      exact ⟨inv_missLocked hi1, dirty_lookup hi hdn k, (abs_missLocked hi1 hdn).trans (abs_upd none rfl)⟩
    | false =>
      have hnone := abs_none_of_not_read hi ha hr
      rw [lad_none s k hr ha]
      exact ⟨hi, hnone.symm, (abs_upd_none_of_none s k hnone).symm⟩

theorem clear_refines (s : St α) (hi : Inv s) :
    Inv (clear s) ∧ abs (clear s) = fun _ => none := by
  by_cases h : lenRead s = 0 ∧ s.amended = false
  · obtain ⟨hl, ha⟩ := h
    rw [clear_noop s hl ha]
    refine ⟨hi, funext fun k => ?_⟩
    -- read is empty and nothing is outside it
    refine abs_none_of_not_read hi ha (Bool.eq_false_iff.2 fun hr => ?_)
    have : k ∈ s.dom.filter s.inRead := List.mem_filter.2 ⟨(hi.dom_iff k).2 (Or.inl hr), hr⟩
    rw [List.length_eq_zero_iff.1 hl] at this
    cases this
  · rw [clear_wipe s h]
    exact ⟨by constructor <;> simp, rfl⟩

/-- a duplicate-free list of keys that holds every live key of `m` yields the live pairs of `m` -/
theorem livePairs_filterMap (m : String → Option α) (l : List String) (hnd : l.Nodup)
    (hl : ∀ k, m k ≠ none → k ∈ l) : LivePairs m (l.filterMap fun k => (m k).map fun v => (k, v)) := by
  have hmem : ∀ k v, (k, v) ∈ l.filterMap (fun k => (m k).map fun v => (k, v)) ↔ k ∈ l ∧ m k = some v := by
    intro k v
    simp only [List.mem_filterMap, Option.map_eq_some_iff, Prod.mk.injEq]
    exact ⟨fun ⟨a, ha, w, hw, hak, hwv⟩ => hak ▸ hwv ▸ ⟨ha, hw⟩, fun ⟨hk, hv⟩ => ⟨k, hk, v, hv, rfl, rfl⟩⟩
  refine ⟨?_, fun k v => (hmem k v).trans ⟨And.right, fun h => ⟨hl k (by simp [h]), h⟩⟩⟩
  -- every pair carries the key it was made from, and those are pairwise different
  refine List.pairwise_map.2 (hnd.filterMap _ fun a a' hne b hb b' hb' => ?_)
  obtain ⟨_, _, rfl⟩ := Option.map_eq_some_iff.1 hb
  obtain ⟨_, _, rfl⟩ := Option.map_eq_some_iff.1 hb'
  exact hne

/-- Range visits exactly the live pairs, each key once, and leaves the contents unchanged -/
theorem range_refines (s : St α) (hi : Inv s) :
    Inv (range s).2 ∧ LivePairs (abs s) (range s).1 ∧ abs (range s).2 = abs s := by
  -- Range reads a state that is not amended, where every live key is in read
  have key : ∀ s1 : St α, Inv s1 → s1.amended = false →
      LivePairs (abs s1) ((s1.dom.filter s1.inRead).filterMap (fun k => (slotLoad (s1.ent k)).map (fun v => (k, v)))) :=
    fun s1 hi1 ha1 => livePairs_filterMap (abs s1) _ (hi1.dom_nodup.filter _) fun k hk =>
      List.mem_filter.2 ⟨mem_dom_of_live hi1 hk, Decidable.by_contra fun hr =>
        hk (abs_none_of_not_read hi1 ha1 (Bool.eq_false_iff.2 hr))⟩
  cases ha : s.amended with
  | true =>
    have hd := hi.amended_dirty ha
    have hi1 := inv_promote hi
    rw [range_amended s ha]
    exact ⟨hi1, abs_promote hi hd ▸ key (promote s) hi1 rfl, abs_promote hi hd⟩
  | false =>
    rw [range_clean s ha]
    exact ⟨hi, key s hi ha, rfl⟩

/-- Length is the number of live keys -/
theorem length_refines (s : St α) (hi : Inv s) :
    ∃ l, length s = l.length ∧ LivePairs (abs s) l := by
  -- `p` is membership in the measured map, which holds every live key
  have key : ∀ (p : String → Bool), (∀ k, abs s k ≠ none → p k = true) →
      ∃ l, ((s.dom.filter p).filter (isLive s)).length = l.length ∧ LivePairs (abs s) l := by
    intro p hp
    refine ⟨_, ?_, livePairs_filterMap (abs s) (s.dom.filter p) (hi.dom_nodup.filter _) fun k hk =>
      List.mem_filter.2 ⟨mem_dom_of_live hi hk, hp k hk⟩⟩
    rw [List.length_filterMap_eq_countP, List.countP_eq_length_filter]
    simp only [Option.isSome_map]
    rfl
  unfold length
  cases ha : s.amended with
  | true =>
    exact key _ fun k hk => Decidable.by_contra fun hd =>
      hk (abs_none_of_not_dirty hi (hi.amended_dirty ha) (Bool.eq_false_iff.2 hd))
  | false =>
    exact key _ fun k hk => Decidable.by_contra fun hr => hk (abs_none_of_not_read hi ha (Bool.eq_false_iff.2 hr))

/-! ### every operation, then every history -/

theorem step_refines (s : St α) (hi : Inv s) (op : Op α) :
    Inv (step s op).2 ∧ RetOK (abs s) op (step s op).1 ∧ abs (step s op).2 = specNext (abs s) op := by
  cases op with
  | load k =>
    obtain ⟨h1, h2, h3⟩ := load_refines s hi k
    exact ⟨h1, congrArg Ret.val h2, h3⟩
  | store k v => exact ⟨(store_refines s hi k v).1, rfl, (store_refines s hi k v).2⟩
  | loadOrStore k v =>
    obtain ⟨h1, h2, h3⟩ := loadOrStore_refines s hi k v
    refine ⟨h1, ?_, h3⟩
    show Ret.los (loadOrStore s k v).1.1 (loadOrStore s k v).1.2 = _
    rw [h2]
    cases abs s k <;> rfl
  | loadAndDelete k =>
    obtain ⟨h1, h2, h3⟩ := loadAndDelete_refines s hi k
    exact ⟨h1, congrArg Ret.val h2, h3⟩
  | delete k => exact ⟨(loadAndDelete_refines s hi k).1, rfl, (loadAndDelete_refines s hi k).2.2⟩
  | clear => exact ⟨(clear_refines s hi).1, rfl, (clear_refines s hi).2⟩
  | range =>
    obtain ⟨h1, h2, h3⟩ := range_refines s hi
    exact ⟨h1, ⟨_, rfl, h2⟩, h3⟩
  | length =>
    obtain ⟨l, h1, h2⟩ := length_refines s hi
    exact ⟨hi, ⟨l, congrArg Ret.len h1, h2⟩, rfl⟩

/-- running a history on the implementation model, checking every return value against the ordinary map -/
def Refines (s : St α) (m : String → Option α) : List (Op α) → Prop
  | [] => True
  | op :: ops => RetOK m op (step s op).1 ∧ Refines (step s op).2 (specNext m op) ops

theorem refines_from : ∀ (ops : List (Op α)) (s : St α), Inv s → Refines s (abs s) ops
  | [], _, _ => trivial
  | op :: ops, s, hi =>
    have ⟨h1, h2, h3⟩ := step_refines s hi op
    ⟨h2, h3 ▸ refines_from ops _ h1⟩

/-- C12, sequential clause: EVERY history from the empty map behaves like an ordinary string-keyed map -/
theorem history_refines (ops : List (Op α)) : Refines (init : St α) (fun _ => none) ops :=
  refines_from ops (init : St α) inv_init

/-- the pre-fix Length (len of the map, tombstones included) did NOT refine the ordinary map:
    Store a; Load a; Delete a; Length gave 1.  Kept as the witness of the repaired defect. -/
theorem KF_lengthOld_witness :
    lengthOld (loadAndDelete (load (store (init : St Nat) "a" 1) "a").2 "a").2 = 1 ∧
    length (loadAndDelete (load (store (init : St Nat) "a" 1) "a").2 "a").2 = 0 := by
  constructor <;> decide

/- non-vacuity: a history that expunges, un-expunges and promotes -/
example : Inv (store (init : St Nat) "a" 1) := (store_refines _ inv_init "a" 1).1
example : (step (store (init : St Nat) "a" 1) (.load "a")).1 = .val (some 1) := by decide

end DS.Props.C12
