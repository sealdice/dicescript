/-
  C14 — the calculation-process text explains the result.  Property theorems only (model: DS/Model/Detail.lean,
  tied to makeDetailStr by the `detail` stream).
-/
import DS.Proofs.DetailLemmas

namespace DS.Props.C14
open DS.Detail

/-- spans that do not touch: each begins strictly after the previous one ends -/
def Separated : Int → List Span → Prop
  | _, [] => True
  | lastEnd, s :: rest => lastEnd < (s.b : Int) ∧ s.b ≤ s.e ∧ Separated (s.e : Int) rest

def single (s : Span) : Group := { b := s.b, e := s.e, tag := s.tag, spans := [s] }

/-- rolls that do not overlap are annotated one by one: every span becomes its own group, in order -/
theorem groupSpans_separated : ∀ (spans : List Span) (lastEnd : Int) (acc : List Group),
    Separated lastEnd spans → groupSpans spans lastEnd acc = acc.reverse ++ spans.map single := by
  intro spans
  induction spans with
  | nil => intro lastEnd acc _; simp [groupSpans]
  | cons s rest ih =>
    intro lastEnd acc ⟨h1, h2, h3⟩
    have he : (s.e : Int) > lastEnd := by omega
    simp only [groupSpans]
    rw [if_pos h1, if_pos he, ih _ _ h3]
    simp [single]

/-- the text that replaces one roll: its value followed by the bracketed annotation -/
def replacement (nGroups : Nat) (base : List Nat) (s : Span) : List Nat :=
  let exprText := if s.expr.isEmpty then base else s.expr
  let suffix0 := if s.exprSuffix.isEmpty then [61] else s.exprSuffix
  let (detail, suffix) := if !s.textOnly then ([91] ++ exprText, suffix0) else ([91], [])
  let detail := if !s.text.isEmpty && s.ret != s.text then detail ++ suffix ++ s.text else detail
  let detail :=
    if s.tag == "load" then
      if s.textOnly then (if !s.text.isEmpty then [91] ++ s.text else detail ++ [91, 45])
      else (let d := [91] ++ exprText
            if !s.text.isEmpty then d ++ [44] ++ s.text else d)
    else if s.tag == "load.computed" then detail ++ suffix ++ s.ret
    else detail
  let detail := detail ++ [93]
  let detail := if nGroups == 1 && detail == [91] ++ base ++ [93] then [] else detail
  let detail := if detail.length > 400 then utf8 "[略]" else detail
  s.ret ++ detail

/-- splicing one roll: everything before it, `value[annotation]`, everything after it — the bytes outside
    the roll's own extent are untouched -/
theorem renderGroup_single (buf : List Nat) (n : Nat) (s : Span) (h1 : s.b ≤ s.e) (h2 : s.e ≤ buf.length) :
    renderGroup buf n (single s) =
      some (buf.take s.b ++ replacement n ((buf.take s.e).drop s.b) s ++ buf.drop s.e) := by
  unfold renderGroup
  dsimp only [single, sortByEnd, insertByEnd, List.getLast?_singleton, subDetails]
  rw [slice_eq_some h1 h2, slice_eq_some (Nat.zero_le _) (Nat.le_trans h1 h2), slice_eq_some h2 (Nat.le_refl _),
    List.take_length, List.drop_zero]
  -- what is left of `renderGroup` is `replacement` with no sub-details
  simp only [replacement, List.filter_nil, List.isEmpty_nil, if_true, List.append_nil, List.append_assoc]

/-- **the matched source with each roll replaced by `value[annotation]`**: the text between the rolls is copied, every
    roll's extent `[b, e)` is replaced by its `replacement` (computed from the ORIGINAL text of that extent) -/
def spliced (n : Nat) (buf : List Nat) : Nat → List Span → List Nat
  | pos, [] => buf.drop pos
  | pos, s :: rest => (buf.take s.b).drop pos ++ replacement n ((buf.take s.e).drop s.b) s ++ spliced n buf s.e rest

/-- all spans of a separated list starting after `lastEnd` end at or before `bound` -/
def EndsBefore (bound : Nat) (spans : List Span) : Prop := ∀ s ∈ spans, s.e ≤ bound

theorem Separated.le : ∀ {spans : List Span} {l : Int}, Separated l spans → ∀ s ∈ spans, s.b ≤ s.e
  | _ :: _, _, ⟨_, h2, h3⟩, s, hs => by
    rcases List.mem_cons.1 hs with rfl | hs
    · exact h2
    · exact h3.le s hs

theorem Separated.weaken {l l' : Int} (hl : ∀ b : Nat, l < b → l' < b) :
    ∀ {spans : List Span}, Separated l spans → Separated l' spans
  | [], _ => trivial
  | _ :: _, ⟨h1, h2, h3⟩ => ⟨hl _ h1, h2, h3⟩

/-- The groups are spliced from right to left, each step rewriting the buffer the next one reads.  Seen from a span `s`, the
    spans to its right are done first and leave the first `s.e` bytes as they were, so `s` is rendered from the original text:
    with `pos` at or before the first span, the bytes before `pos` are untouched and the rest is `spliced` from `pos`. -/
theorem splice_from (n : Nat) (P X : List Nat) : ∀ (spans : List Span) (pos : Nat) (lastEnd : Int),
    (pos : Int) ≤ lastEnd + 1 → Separated lastEnd spans → EndsBefore P.length spans →
    spliceGroups n (spans.map single).reverse (P ++ X) = some (P.take pos ++ spliced n P pos spans ++ X)
  | [], pos, _, _, _, _ => by simp [spliceGroups, spliced]
  | s :: rest, pos, lastEnd, hpos, ⟨h1, h2, h3⟩, hend => by
    have hse : s.e ≤ P.length := hend s (by simp)
    have hQ : (P.take s.e).length = s.e := List.length_take_of_le hse
    rw [List.map_cons, List.reverse_cons, spliceGroups_append,
      splice_from n P X rest s.e s.e (by omega) h3 fun u hu => hend u (by simp [hu])]
    simp only [Option.bind_some, spliceGroups, List.append_assoc]
    rw [renderGroup_single _ n s h2 (by rw [List.length_append, hQ]; omega), List.take_left' hQ, List.drop_left' hQ,
      List.take_append_of_le_length (by omega), List.take_take, Nat.min_eq_left h2]
    have hpre := List.take_append_drop pos (P.take s.b)
    rw [List.take_take, Nat.min_eq_left (by omega)] at hpre
    simp only [spliced, List.append_assoc]
    rw [← List.append_assoc (P.take pos), hpre]

/-- **Every number of non-overlapping rolls**: splicing the one-span groups from right to left (as makeDetailStr does,
    each step rewriting the buffer the next step reads) yields the original text with every roll replaced in place. -/
theorem splice_separated (n : Nat) (spans : List Span) (P X : List Nat) (lastEnd : Int)
    (hsep : Separated lastEnd spans) (hend : EndsBefore P.length spans) :
    spliceGroups n (spans.map single).reverse (P ++ X) = some (spliced n P 0 spans ++ X) := by
  simpa using splice_from n P X spans 0 (max lastEnd (-1)) (by omega) (hsep.weaken fun b hb => by omega) hend

/-- **The process text for any number of non-overlapping rolls** is the matched source with each roll replaced by
    `value[annotation]` (trimmed; empty when that is just the result). -/
theorem makeDetail_separated (src : List Nat) (offset : Nat) (spans : List Span) (ret : List Nat)
    (hoff : offset ≤ src.length) (hsep : Separated (-1) spans) (hend : EndsBefore offset spans) :
    makeDetail src offset spans ret =
      some (let t := trimSpace (spliced spans.length (src.take offset) 0 spans); if t == ret then [] else t) := by
  have hs : slice src 0 offset = some (src.take offset) := slice_eq_some (Nat.zero_le _) hoff
  have hfil : spans.filter (fun s => decide (s.b ≤ s.e) && decide (s.e ≤ offset)) = spans := by
    rw [List.filter_eq_self]
    intro s hs'
    simp [hsep.le s hs', hend s hs']
  simp only [makeDetail, hs, hfil]
  rw [groupSpans_separated spans (-1) [] hsep]
  simp only [List.reverse_nil, List.nil_append, List.length_map]
  have hlen : (src.take offset).length = offset := List.length_take_of_le hoff
  have := splice_separated spans.length spans (src.take offset) [] (-1) hsep (by rw [hlen]; exact hend)
  simp only [List.append_nil] at this
  rw [this]

/-- for a plain dice roll whose text differs from its value the annotation is exactly
    `value[source=text]`: e.g. `7[2d6=3+4]` -/
theorem dice_annotation (n : Nat) (base ret text : List Nat) (hne : text ≠ []) (hd : ret ≠ text)
    (hlen : ([91] ++ base ++ [61] ++ text ++ [93]).length ≤ 400) :
    replacement n base { b := 0, e := 0, ret := ret, text := text, expr := [], tag := "dice", textOnly := false, exprSuffix := [] }
      = ret ++ ([91] ++ base ++ [61] ++ text ++ [93]) := by
  have h1 : text.isEmpty = false := by cases text <;> simp_all
  have h2 : (ret != text) = true := by simpa using hd
  -- after `[base` comes `=`, not `]`: this is not the annotation that is dropped
  have h3 : (([91] ++ base ++ [61] ++ text ++ [93] : List Nat) == [91] ++ base ++ [93]) = false := by simp
  have h4 : ¬ (([91] ++ base ++ [61] ++ text ++ [93] : List Nat).length > 400) := by omega
  have e1 : ("dice" == "load") = false := by decide
  have e2 : ("dice" == "load.computed") = false := by decide
  simp only [replacement, List.isEmpty_nil, if_true, Bool.not_false, h1, h2, Bool.and_self, e1, e2, Bool.false_eq_true,
    if_false, h3, Bool.and_false, h4]

/- non-vacuity: `2d6 + 1` with the roll 7 = 3+4 at bytes 0..3 -/
example : makeDetail [50, 100, 54, 32, 43, 32, 49] 7
    [{ b := 0, e := 3, ret := [55], text := [51, 43, 52], expr := [], tag := "dice", textOnly := false, exprSuffix := [] }]
    [56] = some [55, 91, 50, 100, 54, 61, 51, 43, 52, 93, 32, 43, 32, 49] := by decide

/- non-vacuity: `2d6 + 1d4` with rolls 7 = 3+4 at bytes 0..3 and 2 at bytes 6..9 -/
example : Separated (-1) [{ b := 0, e := 3, ret := [55], text := [51, 43, 52], expr := [], tag := "dice", textOnly := false, exprSuffix := [] },
    { b := 6, e := 9, ret := [50], text := [], expr := [], tag := "dice", textOnly := false, exprSuffix := [] }] := by
  simp [Separated]
example : spliced 2 [50, 100, 54, 32, 43, 32, 49, 100, 52] 0
    [{ b := 0, e := 3, ret := [55], text := [51, 43, 52], expr := [], tag := "dice", textOnly := false, exprSuffix := [] },
     { b := 6, e := 9, ret := [50], text := [], expr := [], tag := "dice", textOnly := false, exprSuffix := [] }]
    = [55, 91, 50, 100, 54, 61, 51, 43, 52, 93, 32, 43, 32, 50, 91, 49, 100, 52, 93] := by decide

end DS.Props.C14
