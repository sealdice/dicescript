/-
  C06 — seeded evaluation is reproducible and resumable.  Property theorems only.
  Determinism is by construction (every model function is a function of its parameters and the word
  stream); the theorems with content are the seed codec round trip, resumption, and the regenerated
  facts that every draw in the code goes through the context's generator.
-/
import DS.Model.Rng
import DS.Gen.RngSites

namespace DS.Props.C06
open DS.Rng

theorem fromBytesBE_append (l : List Nat) (x : Nat) : fromBytesBE (l ++ [x]) = fromBytesBE l * 256 + x % 256 := by
  simp [fromBytesBE, List.foldl_append]

theorem bytesBE_length : ∀ (n s : Nat), (bytesBE n s).length = n := by
  intro n
  induction n with
  | zero => intro s; rfl
  | succ n ih => intro s; simp [bytesBE, ih]

theorem fromBytesBE_bytesBE : ∀ (n s : Nat), s < 256 ^ n → fromBytesBE (bytesBE n s) = s := by
  intro n
  induction n with
  | zero => intro s h; simp at h; subst h; rfl
  | succ n ih =>
    intro s h
    simp only [bytesBE]
    rw [fromBytesBE_append, ih (s / 256) (by rw [Nat.pow_succ] at h; omega)]
    omega

theorem two128_pos : 0 < two128 := by decide
theorem two128_eq : two128 = 256 ^ 16 := by decide

/-- GetCurSeed then Seed/Init: the 16-byte form loses nothing -/
theorem unmarshal_marshal (s : Nat) (h : s < two128) : unmarshal (marshal s) = some s := by
  unfold unmarshal marshal
  have hl := bytesBE_length 16 s
  simp only [hl, Nat.lt_irrefl, if_false]
  rw [List.take_of_length_le (by omega)]
  rw [fromBytesBE_bytesBE 16 s (two128_eq ▸ h)]

theorem step_lt (s : Nat) : step s < two128 := Nat.mod_lt _ two128_pos

theorem advanceWith_add (f : Nat → Nat) : ∀ (a b s : Nat),
    advanceWith f (a + b) s = advanceWith f b (advanceWith f a s) := by
  intro a
  induction a with
  | zero => intro b s; rw [Nat.zero_add]; rfl
  | succ a ih => intro b s; rw [Nat.succ_add]; simp only [advanceWith]; exact ih b (f s)

theorem wordsWith_length (f o : Nat → Nat) : ∀ (a s : Nat), (wordsWith f o a s).length = a := by
  intro a
  induction a with
  | zero => intro s; rfl
  | succ a ih => intro s; simp only [wordsWith, List.length_cons, ih]

theorem wordsWith_add (f o : Nat → Nat) : ∀ (a b s : Nat),
    wordsWith f o (a + b) s = wordsWith f o a s ++ wordsWith f o b (advanceWith f a s) := by
  intro a
  induction a with
  | zero => intro b s; rw [Nat.zero_add]; rfl
  | succ a ih =>
    intro b s
    rw [Nat.succ_add]
    simp only [wordsWith, advanceWith, List.cons_append]
    rw [ih b (f s)]

theorem advanceWith_inv (f : Nat → Nat) (P : Nat → Prop) (hf : ∀ s, P (f s)) :
    ∀ (k s : Nat), P s → P (advanceWith f k s) := by
  intro k
  induction k with
  | zero => intro s h; exact h
  | succ k ih => intro s _; simp only [advanceWith]; exact ih _ (hf s)

theorem advance_lt (k s : Nat) (h : s < two128) : advance k s < two128 :=
  advanceWith_inv step (· < two128) step_lt k s h

theorem advance_add (a b s : Nat) : advance (a + b) s = advance b (advance a s) :=
  advanceWith_add step a b s

theorem words_add (a b s : Nat) : words (a + b) s = words a s ++ words b (advance a s) :=
  wordsWith_add step output a b s

/-- Resume: capture the generator after `a` draws (GetCurSeed), install the bytes in a fresh context
    (Seed + Init): the next `b` words are exactly words a+1 … a+b of the original sequence. -/
theorem resume (s : Nat) (h : s < two128) (a b : Nat) :
    ∃ s', unmarshal (marshal (advance a s)) = some s' ∧ words b s' = (words (a + b) s).drop a := by
  refine ⟨advance a s, unmarshal_marshal _ (advance_lt a s h), ?_⟩
  rw [words_add]
  exact (List.drop_left' (wordsWith_length step output a s)).symm

/-- every word is a genuine 64-bit word -/
theorem output_lt (s : Nat) : output s < two64 := by
  unfold output rotr64
  exact Nat.mod_lt _ (by decide)

open DS.Gen.RngSites

/-- where a Roll* call may take its generator from: the caller's own `src` parameter, the context's
    generator, a local alias of it, or — only inside `Roll` itself — the documented fallback to the
    package-level source for contexts that were never seeded -/
def okSite (s : Site) : Bool :=
  s.arg == "ctx.RandSrc" || s.arg == "src<-ctx.RandSrc" ||
  (s.file == "roll_func.go" && s.arg == "src") ||
  (s.file == "roll_func.go" && s.fn == "Roll" && s.arg == "src<-randSource")

/-- REGENERATED FACT: every call of a Roll* function draws from the context's generator -/
theorem all_draws_from_ctx : sites.all okSite = true := by decide

/-- REGENERATED FACT: no package-level function of a rand package is used (only the PCGSource type) -/
theorem no_package_level_rand : randUses.all (fun u => u.2.2 == "rand.PCGSource") = true := by decide

/-- REGENERATED FACT: sub-VMs (function calls, computed values) unconditionally inherit the caller's
    generator, and Init builds the generator from Seed whenever Seed is set -/
theorem randsrc_assignments :
    randSrcAssigns = [("types.go", "Init", "ctx.RandSrc", "&s", "ctx.Seed != nil"),
                      ("types.go", "ComputedExecute", "vm.RandSrc", "ctx.RandSrc", ""),
                      ("types.go", "FuncInvokeRaw", "vm.RandSrc", "ctx.RandSrc", "")] := rfl

/- non-vacuity -/
example : unmarshal (marshal 42) = some 42 := by decide

end DS.Props.C06
