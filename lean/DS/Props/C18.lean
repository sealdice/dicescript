/-
  C18 — the st command reports every attribute edit once, in order, verbatim (plain-assignment class).

  `st_roundtrip`: for EVERY list of edits whose names are non-empty runs of name characters and whose values are non-empty
  digit runs, written with any binder ('' / ':' / '=' with blanks around it) and any separator (blanks, optional comma,
  blanks), the reader returns exactly that list: each edit once, in source order, name and value text verbatim.
  The only assumption on name characters is that they are not digits, blanks, commas or binders (true of xidStart).
-/
import DS.Model.StList

namespace DS.Props.C18
open DS.StList

/-- the first character of `l`, if there is one, satisfies `q` -/
def Head (q : Char → Prop) (l : List Char) : Prop := ∀ c, l.head? = some c → q c

theorem Head.append {q : Char → Prop} {a b : List Char} (ha : ∀ c ∈ a, q c) (hb : a = [] → Head q b) :
    Head q (a ++ b) := by
  cases a with
  | nil => exact hb rfl
  | cons x t => intro c hc; cases hc; exact ha x List.mem_cons_self

theorem takeWhile_append_stop {p : Char → Bool} (a b : List Char) (ha : ∀ c ∈ a, p c = true)
    (hb : Head (p · = false) b) : (a ++ b).takeWhile p = a ∧ (a ++ b).dropWhile p = b := by
  rw [List.takeWhile_append_of_pos ha, List.dropWhile_append_of_pos ha]
  cases b with
  | nil => simp
  | cons x t => simp [hb x rfl]

theorem dropWhile_stop {p : Char → Bool} (l : List Char) (h : Head (p · = false) l) : l.dropWhile p = l :=
  (takeWhile_append_stop [] l nofun h).2

theorem mem_blanks {n : Nat} {c : Char} (h : c ∈ blanks n) : c = ' ' := List.eq_of_mem_replicate h

theorem dropWhile_blanks (n : Nat) (l : List Char) : (blanks n ++ l).dropWhile isSpace = l.dropWhile isSpace :=
  List.dropWhile_append_of_pos fun _ hc => mem_blanks hc ▸ rfl

theorem digit_not_space (d : Char) (h : isDigit d = true) : isSpace d = false := by
  simp only [isDigit, Bool.and_eq_true, decide_eq_true_eq] at h
  simp only [isSpace, beq_eq_false_iff_ne, ne_eq]
  intro hh; subst hh; exact absurd h.1 (by decide)

theorem digit_not_binder (d : Char) (h : isDigit d = true) : isBinder d = false := by
  simp only [isDigit, Bool.and_eq_true, decide_eq_true_eq] at h
  simp only [isBinder, Bool.or_eq_false_iff, beq_eq_false_iff_ne, ne_eq]
  constructor <;> (intro hh; subst hh; exact absurd h.2 (by decide))

/-- no binder: the value follows the name directly -/
theorem skipBinder_digit (d : Char) (t : List Char) (h : isDigit d = true) : skipBinder (d :: t) = d :: t := by
  simp [skipBinder, List.dropWhile, digit_not_space d h, digit_not_binder d h]

theorem skipBinder_binder (pre post : Nat) (c : Char) (rest : List Char) (hc : isBinder c = true) :
    skipBinder (blanks pre ++ ([c] ++ blanks post) ++ rest) = rest.dropWhile isSpace := by
  have hcs : isSpace c = false := by
    simp only [isBinder, Bool.or_eq_true, beq_iff_eq] at hc
    rcases hc with h | h <;> (subst h; decide)
  simp only [skipBinder, List.append_assoc, dropWhile_blanks]
  simp [hcs, hc, dropWhile_blanks]

theorem skipSep_print (a b : Nat) (comma : Bool) (tail : List Char)
    (hs : Head (isSpace · = false) tail) (hc : Head (· ≠ ',') tail) :
    skipSep (blanks a ++ ((if comma then [','] else []) ++ blanks b) ++ tail) = tail := by
  simp only [skipSep, List.append_assoc, dropWhile_blanks]
  cases comma with
  | true =>
    have : (',' :: (blanks b ++ tail)).dropWhile isSpace = ',' :: (blanks b ++ tail) := dropWhile_stop _ (by rintro _ ⟨⟩; decide)
    simp only [if_true, List.cons_append, List.nil_append, this, dropWhile_blanks]
    exact dropWhile_stop tail hs
  | false =>
    simp only [Bool.false_eq_true, if_false, List.nil_append, dropWhile_blanks, dropWhile_stop tail hs]
    split
    · exact absurd rfl (hc ',' rfl)
    · rfl

structure WF (P : Char → Bool) (e : Edit) : Prop where
  name_ne : e.name ≠ []
  name_ok : ∀ c ∈ e.name, P c = true
  val_ne : e.val ≠ []
  val_ok : ∀ c ∈ e.val, isDigit c = true
  binder_ok : ∀ c, e.binder = some c → isBinder c = true

/-- characters that may occur in an unquoted name are neither digits, blanks, commas nor binders -/
def NameChars (P : Char → Bool) : Prop := ∀ c, P c = true → isDigit c = false ∧ isSpace c = false ∧ c ≠ ',' ∧ isBinder c = false

/-- An edit followed by nothing or by the first character of the next name is read back: the name ends where the binder part or
    the value begins, the value ends where the separator or the next name begins. -/
theorem readOne_print (P : Char → Bool) (hP : NameChars P) (e : Edit) (tail : List Char) (he : WF P e)
    (ht : Head (P · = true) tail) : readOne P (e.print ++ tail) = some ((e.name, e.val), tail) := by
  obtain ⟨hn0, hn, hv0, hv, hb⟩ := he
  have hPd : ∀ c, isDigit c = true → P c = false := fun c h =>
    Bool.eq_false_iff.2 fun hp => by simp [(hP c hp).1] at h
  have hPb : ∀ c, isBinder c = true → P c = false := fun c h =>
    Bool.eq_false_iff.2 fun hp => by simp [(hP c hp).2.2.2] at h
  have hPs : P ' ' = false := Bool.eq_false_iff.2 fun hp => by simpa [isSpace] using (hP ' ' hp).2.1
  -- the three parts after the name: binder with its blanks, value, separator
  let bind := match e.binder with | some c => blanks e.pre ++ ([c] ++ blanks e.post) | none => []
  let sep := blanks e.sepA ++ ((if e.comma then [','] else []) ++ blanks e.sepB)
  have hprint : e.print ++ tail = e.name ++ (bind ++ (e.val ++ (sep ++ tail))) := by
    simp only [Edit.print, bind, sep, List.append_assoc]
    rfl
  have hsepc : ∀ c ∈ sep, c = ' ' ∨ c = ',' := by
    intro c hc
    simp only [sep, List.mem_append] at hc
    rcases hc with hc | hc | hc
    · exact .inl (mem_blanks hc)
    · split at hc
      · exact .inr (List.mem_singleton.1 hc)
      · cases hc
    · exact .inl (mem_blanks hc)
  have hsep : skipSep (sep ++ tail) = tail :=
    skipSep_print e.sepA e.sepB e.comma tail (fun c h => (hP c (ht c h)).2.1) (fun c h => (hP c (ht c h)).2.2.1)
  have hval := takeWhile_append_stop (p := isDigit) e.val (sep ++ tail) hv
    (.append (fun c hc => by rcases hsepc c hc with rfl | rfl <;> decide) fun _ c h => (hP c (ht c h)).1)
  have hvs : Head (isSpace · = false) (e.val ++ (sep ++ tail)) :=
    .append (fun c hc => digit_not_space c (hv c hc)) fun h => absurd h hv0
  have hbind : (∀ c ∈ bind, P c = false) ∧ skipBinder (bind ++ (e.val ++ (sep ++ tail))) = e.val ++ (sep ++ tail) := by
    cases hbd : e.binder with
    | none =>
      simp only [bind, hbd]
      cases hv' : e.val with
      | nil => exact absurd hv' hv0
      | cons d t => exact ⟨nofun, skipBinder_digit d _ (hv d (hv' ▸ List.mem_cons_self))⟩
    | some c =>
      have hcb := hb c hbd
      simp only [bind, hbd]
      refine ⟨fun x hx => ?_, (skipBinder_binder e.pre e.post c _ hcb).trans (dropWhile_stop _ hvs)⟩
      simp only [List.mem_append, List.mem_singleton] at hx
      rcases hx with hx | rfl | hx
      · exact mem_blanks hx ▸ hPs
      · exact hPb x hcb
      · exact mem_blanks hx ▸ hPs
  have hname := takeWhile_append_stop (p := P) e.name (bind ++ (e.val ++ (sep ++ tail))) hn
    (.append hbind.1 fun _ => .append (fun c hc => hPd c (hv c hc)) fun h => absurd h hv0)
  have hne : e.name.isEmpty = false := by cases hnm : e.name with | nil => exact absurd hnm hn0 | cons _ _ => rfl
  have hve : e.val.isEmpty = false := by cases hvl : e.val with | nil => exact absurd hvl hv0 | cons _ _ => rfl
  rw [hprint]
  simp only [readOne, hname.1, hname.2, hne, hbind.2, hval.1, hval.2, hve, hsep, Bool.false_eq_true, if_false]

/-- the printed list starts with a name character (or is empty) -/
theorem printAll_starts (P : Char → Bool) (es : List Edit) (h : ∀ e ∈ es, WF P e) : Head (P · = true) (printAll es) := by
  cases es with
  | nil => nofun
  | cons e r =>
    have he := h e List.mem_cons_self
    simp only [printAll, List.flatMap_cons, Edit.print, List.append_assoc]
    exact .append he.name_ok fun h => absurd h he.name_ne

theorem readEdits_succ (P : Char → Bool) (n : Nat) {l : List Char} (h : l ≠ []) :
    readEdits P (n + 1) l = match readOne P l with
      | none => none
      | some (e, rest) => match readEdits P n rest with
        | none => none
        | some es => some (e :: es) := by
  cases l with
  | nil => exact absurd rfl h
  | cons _ _ => rfl

/-- C18 (plain-assignment class): every edit once, in order, verbatim -/
theorem st_roundtrip (P : Char → Bool) (hP : NameChars P) (es : List Edit) (h : ∀ e ∈ es, WF P e) (fuel : Nat) (hf : es.length < fuel) :
    readEdits P fuel (printAll es) = some (es.map fun e => (e.name, e.val)) := by
  induction es generalizing fuel with
  | nil => cases fuel with | zero => omega | succ n => simp [printAll, readEdits]
  | cons e r ih =>
    obtain ⟨n, rfl⟩ : ∃ n, fuel = n + 1 := ⟨fuel - 1, by omega⟩
    have he := h e List.mem_cons_self
    have hr : ∀ e' ∈ r, WF P e' := fun e' he' => h e' (List.mem_cons_of_mem _ he')
    have hpa : printAll (e :: r) = e.print ++ printAll r := rfl
    have hne : e.print ++ printAll r ≠ [] := by simp [Edit.print, he.name_ne]
    rw [hpa, readEdits_succ P n hne, readOne_print P hP e (printAll r) he (printAll_starts P r hr)]
    simp only
    rw [ih hr n (by simp only [List.length_cons] at hf; omega)]
    rfl

/-! ### non-vacuity: three edits in three spellings -/
example : readEdits (fun c => c.isAlpha) 10 "str60 dex:70,con = 5".toList =
    some [("str".toList, "60".toList), ("dex".toList, "70".toList), ("con".toList, "5".toList)] := by decide

end DS.Props.C18
