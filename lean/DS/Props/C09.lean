/-
  C09 — JSON snapshot and restore is transparent (codec part).  Property theorems only.
  Values are trees here; sharing and cycles are the subject of the graph model and of the snapshot oracle.
-/
import DS.Proofs.JsonLemmas

namespace DS.Props.C09
open DS.Json DS.Proofs.JsonL

mutual
  /-- C09, codec clause: every encodable value (int64 integers, finite floats, strings, null, arrays, dicts,
      functions, computed values with attributes, known native functions) serialises, and decoding the
      result gives back exactly that value — for every nesting depth, given fuel above the depth. -/
  theorem roundtrip : ∀ (v : V), encodable v = true →
      ∃ j, encode v = .ok j ∧ ∀ n, depth v < n → decode n j = .ok v
    | .int i, he => by
      have hi : minInt64 ≤ i ∧ i ≤ maxInt64 := by simpa [encodable] using he
      refine ⟨_, rfl, fun n hn => ?_⟩
      rw [decode_tagObj (by omega) (by decide), decodeByTag_int, asInt_ok i hi]
      rfl
    | .float f, he => by
      have hf : isFinite f = true := by simpa [encodable] using he
      refine ⟨tagObj 1 (some (.num (.flt f))), by simp [encode, hf], fun n hn => ?_⟩
      rw [decode_tagObj (by omega) (by decide), decodeByTag_float]
      rfl
    | .str s, _ => by
      refine ⟨_, rfl, fun n hn => ?_⟩
      rw [decode_tagObj (by omega) (by decide), decodeByTag_str]
      rfl
    | .null, _ => by
      refine ⟨_, rfl, fun n hn => ?_⟩
      rw [decode_tagObj (by omega) (by decide), decodeByTag_null]
    | .arr l, he => by
      obtain ⟨js, hjs, hd⟩ := roundtripList l (by simpa [encodable] using he)
      refine ⟨tagObj 6 (some (.obj [(fkey .list "list", .arr js)])), by simp [encode, hjs], fun n hn => ?_⟩
      simp only [depth] at hn
      rw [decode_tagObj (by omega) (by decide), decodeByTag_array]
      simp [decArray, asObj, lookup, fkey, hd (n - 1) (by omega)]
    | .dict kv, he => by
      obtain ⟨es, hes, hd⟩ := roundtripEntries kv (by simpa [encodable] using he)
      refine ⟨tagObj 7 (some (.obj [(fkey .dict "dict", .obj es)])), by simp [encode, hes], fun n hn => ?_⟩
      simp only [depth] at hn
      rw [decode_tagObj (by omega) (by decide), decodeByTag_dict]
      simp [decDict, asObj, lookup, fkey, decodeMap, hd (n - 1) (by omega)]
    | .func e nm ps, _ => by
      refine ⟨_, rfl, fun n hn => ?_⟩
      rw [decode_tagObj (by omega) (by decide), decodeByTag_func]
      simp [decFunc, asObj, lookup, fkey, asString, asStringList, asStrings_strs]
    | .computed e none, _ => by
      refine ⟨_, rfl, fun n hn => ?_⟩
      rw [decode_tagObj (by omega) (by decide), decodeByTag_computed]
      simp [decComputed, asObj, lookup, fkey, asString]
    | .computed e (some mp), he => by
      obtain ⟨es, hes, hd⟩ := roundtripEntries mp (by simpa [encodable] using he)
      refine ⟨tagObj 5 (some (.obj [(fkey .expr "expr", .str e), (fkey .attrs "attrs", .obj es)])),
        by simp [encode, hes], fun n hn => ?_⟩
      simp only [depth] at hn
      rw [decode_tagObj (by omega) (by decide), decodeByTag_computed]
      simp [decComputed, asObj, lookup, fkey, asString, decodeMap, hd (n - 1) (by omega)]
    | .nativeFn nm, he => by
      have hmem : nm ∈ builtinNames := by simpa [encodable] using he
      refine ⟨_, rfl, fun n hn => ?_⟩
      rw [decode_tagObj (by omega) (by decide), decodeByTag_nativeFn]
      simp [decNativeFn, asObj, lookup, fkey, asString, hmem]
    | .nativeObj nm, _ => by
      refine ⟨_, rfl, fun n hn => ?_⟩
      rw [decode_tagObj (by omega) (by decide), decodeByTag_nativeObj]
      simp [decNativeObj, asObj, lookup, fkey, asString]
    | .unknownTag t, he => by simp [encodable] at he

  theorem roundtripList : ∀ (l : List V), encodableList l = true →
      ∃ js, encodeList l = .ok js ∧ ∀ n, depthList l < n → decodeList n js = .ok l
    | [], _ => ⟨[], rfl, fun n _ => by simp [decodeList]⟩
    | v :: rest, he => by
      have h1 : encodable v = true ∧ encodableList rest = true := by simpa [encodableList] using he
      obtain ⟨j, hj, hdj⟩ := roundtrip v h1.1
      obtain ⟨js, hjs, hdjs⟩ := roundtripList rest h1.2
      refine ⟨j :: js, by simp [encodeList, hj, hjs], ?_⟩
      intro n hn
      have hv : depth v < n := by simp only [depthList] at hn; omega
      have hr : depthList rest < n := by simp only [depthList] at hn; omega
      obtain ⟨kv, rfl⟩ := encode_is_obj v j hj
      simp only [decodeList, hdj n hv, hdjs n hr]

  theorem roundtripEntries : ∀ (kv : List (String × V)), encodableEntries kv = true →
      ∃ es, encodeEntries kv = .ok es ∧ ∀ n, depthEntries kv < n → decodeEntries n es = .ok kv
    | [], _ => ⟨[], rfl, fun n _ => by simp [decodeEntries]⟩
    | (k, v) :: rest, he => by
      have h1 : encodable v = true ∧ encodableEntries rest = true := by simpa [encodableEntries] using he
      obtain ⟨j, hj, hdj⟩ := roundtrip v h1.1
      obtain ⟨es, hes, hdes⟩ := roundtripEntries rest h1.2
      refine ⟨(ukey k, j) :: es, by simp [encodeEntries, hj, hes], ?_⟩
      intro n hn
      have hv : depth v < n := by simp only [depthEntries] at hn; omega
      have hr : depthEntries rest < n := by simp only [depthEntries] at hn; omega
      obtain ⟨kv', rfl⟩ := encode_is_obj v j hj
      simp only [decodeEntries, hdj n hv, hdes n hr, ukey]
end

/-- values that cannot be represented are rejected by the encoder, never silently changed:
    a non-finite float anywhere makes `encode` fail -/
theorem nonfinite_is_error (f : Float) (h : isFinite f = false) : ∃ e, encode (.float f) = .error e := by
  refine ⟨"unsupported value", ?_⟩
  simp [encode, h]

/- non-vacuity -/
example : encodable (.arr [.int 5, .dict [("k", .str "v")], .computed "d6" (some [("a", .null)])]) = true := by decide

end DS.Props.C09
