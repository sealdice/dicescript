/-
  C16 — disabled syntax stays disabled.

  `gate_sound` (DS/Proofs/PegGate.lean) is engine-generic: for ANY grammar, action table, input and fuel, if the static check
  `chk` accepts the rules that can be entered while a flag is in its blocking state, then — unless a flagsSwitch macro action
  has run — the flag stays blocked, no gated opcode is ever written (abandoned alternatives included) and no node that cannot
  succeed while blocked is memoised as succeeded.  Here it is instantiated on the grammar, actions and opcode numbers
  REGENERATED from /repo on every run (DS/Gen); the static checks `static_*` below are evaluated by the kernel, in the one-pass
  form `gateOK` that DS/Proofs/GateScan.lean proves sufficient for `chk`.
-/
import DS.Props.C16Defs

namespace DS.Props.C16
open DS.Peg DS.Gen.Opcodes

theorem memoOK_empty (g : Gate) : MemoOK g ({} : Memo) := by
  intro pos id b e fl _ h
  simp at h

/-- generic instantiation: a gate whose static check holds keeps its opcodes out of every parse that ran no macro -/
theorem stays_off (g : Gate) (hstatic : gateOK ge DS.Gen.Grammar.rules g = true)
    (input : Array Nat) (maxCnt : Nat) (custom : Nat → Nat) (cfg : Flags) (fuel : Nat) (hcfg : cfg.get g.flag = g.blocked) :
    (parseTop (envOf input maxCnt custom) cfg fuel).1.switched = false →
    ∀ op ∈ (parseTop (envOf input maxCnt custom) cfg fuel).1.trace, g.gated op = false := by
  obtain ⟨ok, hrules, h0⟩ := gateOK_sound hstatic rfl
  have hsound := (gate_sound (envOf input maxCnt custom) g ok hrules fuel).1
  intro hsw
  simp only [parseTop] at hsw ⊢
  split at hsw
  all_goals
    rename_i hrn
    simp only [hrn] at hsw ⊢
    refine ((hsound _ _ h0 ?_).1 hsw).trace
    intro _
    exact ⟨hcfg, (by intro f hf; cases hf), (by intro o ho; cases ho), memoOK_empty g, memoOK_empty g⟩

/-! the static check of each gate, evaluated by the kernel on the regenerated grammar -/

theorem static_coc : gateOK ge DS.Gen.Grammar.rules cocGate = true := by decide +kernel
theorem static_wod : gateOK ge DS.Gen.Grammar.rules wodGate = true := by decide +kernel
theorem static_fate : gateOK ge DS.Gen.Grammar.rules fateGate = true := by decide +kernel
theorem static_dc : gateOK ge DS.Gen.Grammar.rules dcGate = true := by decide +kernel
theorem static_stmts : gateOK ge DS.Gen.Grammar.rules stmtsGate = true := by decide +kernel
theorem static_ndice : gateOK ge DS.Gen.Grammar.rules ndiceGate = true := by decide +kernel

/-- CoC: with EnableDiceCoC off and no macro, no CoC opcode is ever written -/
theorem coc_stays_off (input : Array Nat) (maxCnt : Nat) (custom : Nat → Nat) (cfg : Flags) (fuel : Nat) (h : cfg.coc = false) :
    (parseTop (envOf input maxCnt custom) cfg fuel).1.switched = false →
    ∀ op ∈ (parseTop (envOf input maxCnt custom) cfg fuel).1.trace, op ≠ op_typeDiceCocBonus ∧ op ≠ op_typeDiceCocPenalty := by
  intro hsw op hop
  have := stays_off cocGate static_coc input maxCnt custom cfg fuel h hsw op hop
  simp only [cocGate, mkGate, List.contains_cons, List.contains_nil, Bool.or_false, Bool.or_eq_false_iff, beq_eq_false_iff_ne] at this
  exact this

theorem wod_stays_off (input : Array Nat) (maxCnt : Nat) (custom : Nat → Nat) (cfg : Flags) (fuel : Nat) (h : cfg.wod = false) :
    (parseTop (envOf input maxCnt custom) cfg fuel).1.switched = false →
    ∀ op ∈ (parseTop (envOf input maxCnt custom) cfg fuel).1.trace, wodGate.gated op = false :=
  stays_off wodGate static_wod input maxCnt custom cfg fuel h

theorem fate_stays_off (input : Array Nat) (maxCnt : Nat) (custom : Nat → Nat) (cfg : Flags) (fuel : Nat) (h : cfg.fate = false) :
    (parseTop (envOf input maxCnt custom) cfg fuel).1.switched = false →
    ∀ op ∈ (parseTop (envOf input maxCnt custom) cfg fuel).1.trace, fateGate.gated op = false :=
  stays_off fateGate static_fate input maxCnt custom cfg fuel h

theorem dc_stays_off (input : Array Nat) (maxCnt : Nat) (custom : Nat → Nat) (cfg : Flags) (fuel : Nat) (h : cfg.dc = false) :
    (parseTop (envOf input maxCnt custom) cfg fuel).1.switched = false →
    ∀ op ∈ (parseTop (envOf input maxCnt custom) cfg fuel).1.trace, dcGate.gated op = false :=
  stays_off dcGate static_dc input maxCnt custom cfg fuel h

/-- statements: with DisableStmts on, no block (if / while), function definition or return is ever compiled -/
theorem stmts_stay_off (input : Array Nat) (maxCnt : Nat) (custom : Nat → Nat) (cfg : Flags) (fuel : Nat) (h : cfg.disableStmts = true) :
    (parseTop (envOf input maxCnt custom) cfg fuel).1.switched = false →
    ∀ op ∈ (parseTop (envOf input maxCnt custom) cfg fuel).1.trace, stmtsGate.gated op = false :=
  stays_off stmtsGate static_stmts input maxCnt custom cfg fuel h

/-- sides left out: with DisableNDice on — set by the host, or by the st command for its bare values — `2d` never compiles a default-sides
    expression (the flag test stands in front of the consuming alternatives, not inside a look-ahead whose result the packrat memo keeps) -/
theorem ndice_stays_off (input : Array Nat) (maxCnt : Nat) (custom : Nat → Nat) (cfg : Flags) (fuel : Nat) (h : cfg.disableNDice = true) :
    (parseTop (envOf input maxCnt custom) cfg fuel).1.switched = false →
    ∀ op ∈ (parseTop (envOf input maxCnt custom) cfg fuel).1.trace, op ≠ op_typePushDefaultExpr := by
  intro hsw op hop
  have := stays_off ndiceGate static_ndice input maxCnt custom cfg fuel h hsw op hop
  simp only [ndiceGate, mkGate, List.contains_cons, List.contains_nil, Bool.or_false, beq_eq_false_iff_ne] at this
  exact this

end DS.Props.C16
