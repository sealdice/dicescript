/-
  C13 — string literals reproduce text exactly.  Property theorems only.
  `scan q` is the model of the strPartN/strEscape rules (tied to the real parser by the strscan stream);
  `escape q` writes a text with the documented escapes.
-/
import DS.Model.StrLit
import DS.Model.VMRun

namespace DS.Props.C13
open DS.StrLit

def IsDelim (q : Char) : Prop := q = '\'' ∨ q = '"' ∨ q = '`' ∨ q = '\x1e'

theorem scan_normal (q c : Char) (hq : c ≠ q) (hb : c ≠ '\\') (hh : ¬ (isTemplate q = true ∧ c = '{'))
    (d : Char) (ds acc : List Char) :
    scan q (c :: d :: ds) acc = scan q (d :: ds) (c :: acc) := by
  have h1 : (c == q) = false := by simp [hq]
  have h2 : (c == '\\') = false := by simp [hb]
  have h3 : (isTemplate q && c == '{') = false := by simpa using hh
  simp [scan, h1, h2, h3]

theorem scan_escape (q d e : Char) (hq : '\\' ≠ q) (he : escapeOf d = some e) (ds acc : List Char) :
    scan q ('\\' :: d :: ds) acc = scan q ds (e :: acc) := by
  have h1 : (('\\' : Char) == q) = false := by simp [hq]
  simp [scan, h1, he]

theorem scan_close (q : Char) (rest acc : List Char) : scan q (q :: rest) acc = .closed acc.reverse rest := by
  cases rest with
  | nil => simp [scan]
  | cons d ds => simp [scan]

/-- `escapeChar` writes a character either as itself, and then `scan` takes it as it is, or as a backslash and a
    character that `strEscape` turns back into it (the delimiter only in the plain styles, where that is an escape) -/
theorem escapeChar_cases (q : Char) (hq : IsDelim q) (c : Char) (hc : isTemplate q = true → c ≠ q) :
    (escapeChar q c = [c] ∧ c ≠ q ∧ c ≠ '\\' ∧ ¬ (isTemplate q = true ∧ c = '{')) ∨
    ∃ d, escapeChar q c = ['\\', d] ∧ escapeOf d = some c := by
  -- the claim about a result `r`, and one test `if c == a then ['\\', e] else rest` of the chain
  let P (r : List Char) : Prop :=
    (r = [c] ∧ c ≠ q ∧ c ≠ '\\' ∧ ¬ (isTemplate q = true ∧ c = '{')) ∨ ∃ d, r = ['\\', d] ∧ escapeOf d = some c
  have step (a e : Char) (rest : List Char) (he : c = a → escapeOf e = some a) (hr : c ≠ a → P rest) :
      P (if c == a then ['\\', e] else rest) := by
    by_cases h : c = a
    · rw [if_pos (beq_iff_eq.2 h)]; exact .inr ⟨e, rfl, h ▸ he h⟩
    · rw [if_neg (mt beq_iff_eq.1 h)]; exact hr h
  show P (escapeChar q c)
  unfold escapeChar
  refine step _ _ _ (fun _ => by decide) fun h1 => ?_
  refine step _ _ _ (fun h => ?_) fun h2 => ?_
  · subst h
    rcases hq with rfl | rfl | rfl | rfl
    · decide
    · decide
    · exact absurd rfl (hc rfl)
    · exact absurd rfl (hc rfl)
  refine step _ _ _ (fun _ => by decide) fun _ => ?_
  refine step _ _ _ (fun _ => by decide) fun _ => ?_
  refine step _ _ _ (fun _ => by decide) fun _ => ?_
  refine step _ _ _ (fun _ => by decide) fun _ => ?_
  by_cases h7 : (isTemplate q && (c == '{' || c == '}')) = true
  · rw [if_pos h7]
    simp only [Bool.and_eq_true, Bool.or_eq_true, beq_iff_eq] at h7
    exact .inr ⟨c, rfl, by rcases h7.2 with rfl | rfl <;> decide⟩
  · rw [if_neg h7]
    exact .inl ⟨rfl, h2, h1, fun ⟨ht, hb⟩ => h7 (by simp [ht, hb])⟩
/-- one escaped character is read back as itself -/
theorem scan_escapeChar (q : Char) (hq : IsDelim q) (c : Char) (hc : isTemplate q = true → c ≠ q)
    (d : Char) (ds acc : List Char) :
    scan q (escapeChar q c ++ d :: ds) acc = scan q (d :: ds) (c :: acc) := by
  have hbq : '\\' ≠ q := by rcases hq with rfl | rfl | rfl | rfl <;> decide
  rcases escapeChar_cases q hq c hc with ⟨he, h1, h2, h3⟩ | ⟨e, he, hd⟩ <;> rw [he]
  · exact scan_normal q c h1 h2 h3 d ds acc
  · exact scan_escape q e c hbq hd _ _

/-- the escaped text, followed by anything non-empty, is read back character for character -/
theorem scan_escape_text (q : Char) (hq : IsDelim q) : ∀ (s : List Char), (isTemplate q = true → q ∉ s) →
    ∀ (d : Char) (ds acc : List Char),
    scan q (escape q s ++ d :: ds) acc = scan q (d :: ds) (s.reverse ++ acc) := by
  intro s
  induction s with
  | nil => intro _ d ds acc; simp [escape]
  | cons c cs ih =>
    intro hs d ds acc
    have hc : isTemplate q = true → c ≠ q := fun ht h => hs ht (by simp [h])
    have hcs : isTemplate q = true → q ∉ cs := fun ht h => hs ht (by simp [h])
    have e : escape q (c :: cs) = escapeChar q c ++ escape q cs := by simp [escape]
    rw [e, List.append_assoc]
    -- the continuation after the first escaped character is non-empty
    cases hrest : escape q cs ++ d :: ds with
    | nil => simp at hrest
    | cons x xs =>
      rw [scan_escapeChar q hq c hc x xs acc, ← hrest, ih hcs d ds (c :: acc)]
      simp

/-- C13, literal clause: for EVERY text `s` (any Unicode characters, including quotes, backslashes, braces,
    CR/LF, U+001E) the literal written with the documented escapes denotes exactly `s`, in the two plain
    styles unconditionally and in the two template styles whenever `s` does not contain the delimiter. -/
theorem literal_roundtrip (q : Char) (hq : IsDelim q) (s : List Char) (hs : delimFree q s = true)
    (rest : List Char) :
    scan q (escape q s ++ q :: rest) [] = .closed s rest := by
  have hs' : isTemplate q = true → q ∉ s := fun ht => by simpa [delimFree, ht] using hs
  rw [scan_escape_text q hq s hs' q rest [], scan_close]
  simp

/-- the escaped form never contains the delimiter unescaped: it is closed only by the final delimiter
    (a corollary of the round trip for every continuation `rest`) -/
theorem literal_closes_at_end (q : Char) (hq : IsDelim q) (s : List Char) (hs : delimFree q s = true) :
    scan q (escape q s ++ [q]) [] = .closed s [] :=
  literal_roundtrip q hq s hs []

/-- the full statement for the template styles, kept visible: every text has a literal -/
def template_literal_full : Prop :=
  ∀ (s : List Char), ∃ body : List Char, scan '`' (body ++ ['`']) [] = .closed s []

/-- KNOWN FINDING: in the backtick style `\`` is not an escape (it reads as a backslash, then the closing
    delimiter), so the documented escaping of a text containing a backtick does not denote it -/
theorem KF_backtick_not_escapable :
    scan '`' (escape '`' ['a', '`', 'b'] ++ ['`']) [] ≠ .closed ['a', '`', 'b'] [] := by decide

/- non-vacuity -/
example : scan '\'' (escape '\'' ['i', 't', '\'', 's', '\\', '\n', '{'] ++ ['\'']) [] =
    .closed ['i', 't', '\'', 's', '\\', '\n', '{'] [] := by decide
example : delimFree '`' ['a', '{', '}', '\x1e'] = true := by decide


/-! ### run-time half: how the VM assembles a template -/

open DS.VM in
/-- **A template is the concatenation, in order, of its parts.**  `ld.fs n` (the instruction a template with n parts compiles
    to) replaces the n topmost operands — the literal segments and the values its holes left, in source order — by ONE string:
    the concatenation, bottom to top, of their string forms (for every heap, every operand values; below the 1 MiB cap). -/
theorem template_join (sub : SubRun) (g : G) (f : Frame) (n : Int) (h : n.toNat ≤ f.top) (hroom : f.top - n.toNat < f.stack.size)
    (hcap : exec.tooLong ((List.range n.toNat).map (fun i => valToString g.heap (f.stack[f.top - n.toNat + i]!))) 0 = false) :
    exec sub g f (.ldFs n) =
      .next g { f with pc := f.pc + 1, top := f.top - n.toNat + 1,
                       stack := f.stack.set! (f.top - n.toNat)
                         (.str (String.join ((List.range n.toNat).map (fun i => valToString g.heap (f.stack[f.top - n.toNat + i]!))))) } := by
  -- `unfold`, not `simp only [exec]`: the latter first generates one equation per instruction
  unfold exec
  have h1 : ¬ f.top < n.toNat := by omega
  simp only [h1, if_false, hcap, Bool.false_eq_true, Frame.push, hroom, if_true]

open DS.VM in
/-- a template that would exceed the cap is an error, never a truncated string -/
theorem template_cap (sub : SubRun) (g : G) (f : Frame) (n : Int) (h : n.toNat ≤ f.top)
    (hcap : exec.tooLong ((List.range n.toNat).map (fun i => valToString g.heap (f.stack[f.top - n.toNat + i]!))) 0 = true) :
    exec sub g f (.ldFs n) = .stop g { f with pc := f.pc + 1 } (.err "不能一次性创建过长的字符串") := by
  unfold exec
  have h1 : ¬ f.top < n.toNat := by omega
  simp only [h1, if_false, hcap, if_true]

open DS.VM in
/-- **A hole's value becomes text when the hole ends.**  `fstr.block.pop` with a value on top of the hole's base leaves the STRING
    FORM the value has at that moment (for every value and heap, below the cap) — so what a later hole does to a container the
    earlier hole showed cannot reach the text already assembled: … -/
theorem hole_becomes_text (sub : SubRun) (g : G) (f : Frame) (t : Nat) (rest : List Nat) (hb : f.fblocks = t :: rest) (hne : t ≠ f.top)
    (hpos : 0 < f.top) (hroom : t < f.stack.size)
    (hcap : ¬ (valToString g.heap (f.stack[f.top - 1]!)).utf8ByteSize > DS.VM.maxStringLength) :
    exec sub g f .fstrPop =
      .next g { f with pc := f.pc + 1, top := t + 1, fblocks := rest, lastPop := .slot (f.top - 1),
                       stack := f.stack.set! t (.str (valToString g.heap (f.stack[f.top - 1]!))) } := by
  have e0 : (f.top == 0) = false := by simp; omega
  have hne' : (t != f.top) = true := by simp [hne]
  unfold exec
  simp only [hb, hne', if_true, Frame.pop, e0, Bool.false_eq_true, if_false, hcap, Frame.push, hroom]

/-- … the string form of a string does not depend on the heap: once the parts of a template are strings, `template_join`'s result is
    the same whatever the later holes did to the heap -/
theorem text_is_heap_independent (h h' : DS.VM.Heap) (s : String) : DS.VM.valToString h (.str s) = DS.VM.valToString h' (.str s) := by
  simp [DS.VM.valToString, DS.VM.toStr]

end DS.Props.C13
