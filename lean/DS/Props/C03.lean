/-
  C03 — the result belongs to the consumed text (Matched / RestInput contract).

  * `matched_rest` — Matched ++ RestInput is exactly the input, Matched is the consumed text without trailing white space,
    for every input and every offset the parser can stop at.
  * `lookahead_contributes_nothing` — engine-generic theorem `skip_pure`, instantiated on the REGENERATED grammar: whatever
    text a look-ahead predicate (`&e`, `!e`) inspects, ParserData (flags, flags stack, loop bookkeeping, the emitted code)
    is unchanged: text the parser only looked at contributes nothing.
  * What is NOT true of the code (and therefore not proved): that text an ordinary alternative consumed and then gave back
    contributes nothing.  `parseSeq` restores only the text position (model = roll.peg.go parseSeqExpr), so an alternative
    that emits and then fails leaves its code behind: known finding C03-emit-then-fail-leak, witnessed on both sides of the
    peg stream (`1 || )`: emission trace of the whole input ≠ trace of Matched alone).
-/
import DS.Proofs.PegSkip
import DS.Props.C16Defs

namespace DS.Props.C03
open DS.Peg DS.Props.C16

/-! ### Matched / RestInput (rollvm.go RunAfterParsed): `consumed` = the text up to the parser's final offset -/

def isSpace (c : Char) : Bool :=
  c == ' ' || c == '\t' || c == '\n' || c == '\x0b' || c == '\x0c' || c == '\r' || c.toNat == 0x85 || c.toNat == 0xA0 ||
  c.toNat == 0x1680 || (0x2000 ≤ c.toNat && c.toNat ≤ 0x200a) || c.toNat == 0x2028 || c.toNat == 0x2029 || c.toNat == 0x202f ||
  c.toNat == 0x205f || c.toNat == 0x3000

/-- strings.TrimRightFunc(consumed, unicode.IsSpace) -/
def matched (consumed : List Char) : List Char := (consumed.reverse.dropWhile isSpace).reverse

/-- data[len(matched):] -/
def restInput (consumed tail : List Char) : List Char := (consumed.reverse.takeWhile isSpace).reverse ++ tail

theorem matched_rest (consumed tail : List Char) : matched consumed ++ restInput consumed tail = consumed ++ tail := by
  simp only [matched, restInput, ← List.append_assoc, ← List.reverse_append, List.takeWhile_append_dropWhile, List.reverse_reverse]

theorem matched_prefix (consumed : List Char) : ∃ ws, consumed = matched consumed ++ ws ∧ ws.all isSpace = true := by
  refine ⟨(consumed.reverse.takeWhile isSpace).reverse, ?_, ?_⟩
  · simp only [matched, ← List.reverse_append, List.takeWhile_append_dropWhile, List.reverse_reverse]
  · simp only [List.all_reverse]
    exact List.all_takeWhile

theorem matched_no_trailing_space (consumed : List Char) (c : Char) (h : (matched consumed).getLast? = some c) : isSpace c = false := by
  simp only [matched, List.getLast?_reverse] at h
  cases hd : consumed.reverse.dropWhile isSpace with
  | nil => rw [hd] at h; cases h
  | cons x r =>
    rw [hd] at h
    simp only [List.head?_cons, Option.some.injEq] at h
    subst h
    have := List.head_dropWhile_not isSpace (l := consumed.reverse) (by rw [hd]; simp)
    simp only [hd, List.head_cons] at this
    simpa using this

example : matched "2d6  \n".toList = "2d6".toList ∧ restInput "2d6  \n".toList "x".toList = "  \nx".toList := by decide

/-! ### look-ahead contributes nothing -/

set_option maxRecDepth 100000 in
theorem grammar_skipOK : ((List.range DS.Gen.Grammar.rules.size).all fun i =>
    skipOK DS.Gen.Actions.acts DS.Gen.Grammar.rules.size (DS.Gen.Grammar.rules[i]!)) = true := by decide +kernel

theorem lookahead_contributes_nothing (input : Array Nat) (maxCnt : Nat) (custom : Nat → Nat) (fuel : Nat) (e : PExpr) (s : PState)
    (he : skipOK DS.Gen.Actions.acts DS.Gen.Grammar.rules.size e = true) (hs : s.skip > 0) :
    Same s (parseExpr (envOf input maxCnt custom) fuel e s).1 := by
  have hr : ∀ i, i < (envOf input maxCnt custom).rules.size →
      skipOK (envOf input maxCnt custom).acts (envOf input maxCnt custom).rules.size ((envOf input maxCnt custom).rules[i]!) = true := by
    intro i hi
    have := grammar_skipOK
    simp only [List.all_eq_true, List.mem_range] at this
    exact this i hi
  exact (skip_pure (envOf input maxCnt custom) hr fuel).1 e he s hs

/-- in particular an `&e` / `!e` node evaluated in ordinary mode leaves ParserData as it was -/
theorem and_predicate_pure (input : Array Nat) (maxCnt : Nat) (custom : Nat → Nat) (fuel : Nat) (i : Nat) (e : PExpr) (s : PState)
    (he : skipOK DS.Gen.Actions.acts DS.Gen.Grammar.rules.size e = true) :
    (parseNode (envOf input maxCnt custom) (fuel + 1) (.and_ i e) s).1.trace = s.trace ∧
    (parseNode (envOf input maxCnt custom) (fuel + 1) (.and_ i e) s).1.cfg = s.cfg := by
  simp only [parseNode]
  have := lookahead_contributes_nothing input maxCnt custom fuel e { s with skip := s.skip + 1 } he (by simp only; omega)
  exact ⟨this.trace, this.cfg⟩

/-- **A cached parse result is used only under the parse flags it was obtained under** (repair 8d3cac5): whatever a look-ahead
    concluded before the flags were switched (the unrestricted look-ahead over the value of an st edit) cannot answer a question asked
    under the new flags. -/
theorem memo_hit_same_flags (m : Std.HashMap (Nat × Nat) (Bool × Nat × Flags)) (key : Nat × Nat) (cfg : Flags) (b : Bool) (e : Nat)
    (h : memoGet m key cfg = some (b, e)) : m[key]? = some (b, e, cfg) :=
  memoGet_eq_some h

/-- … and an entry stored under other flags is no hit -/
theorem memo_other_flags_miss (m : Std.HashMap (Nat × Nat) (Bool × Nat × Flags)) (key : Nat × Nat) (cfg fl : Flags) (b : Bool) (e : Nat)
    (hm : m[key]? = some (b, e, fl)) (hne : fl ≠ cfg) : memoGet m key cfg = none := by
  unfold memoGet
  rw [hm]
  simp [hne]

/-- **The line-break predicate of the statement separator** (repair a715f46) answers yes exactly when, walking back from the offset,
    a line feed is met before any byte that is not a blank: the separator the statement's last token has already consumed. -/
theorem lineBreakBefore_spec (env : Env) : ∀ (pos : Nat), lineBreakBefore env pos = true →
    ∃ i, i < pos ∧ env.input[i]! = 10 ∧ ∀ j, i < j → j < pos → (env.input[j]! = 32 ∨ env.input[j]! = 9 ∨ env.input[j]! = 13) := by
  intro pos
  induction pos with
  | zero => intro h; simp [lineBreakBefore] at h
  | succ n ih =>
    intro h
    simp only [lineBreakBefore] at h
    split at h
    · rename_i h10
      exact ⟨n, by omega, by simpa using h10, fun j h1 h2 => by omega⟩
    · rename_i h10
      split at h
      · rename_i hb
        obtain ⟨i, hi, hin, hbl⟩ := ih h
        refine ⟨i, by omega, hin, ?_⟩
        intro j h1 h2
        by_cases hj : j = n
        · subst hj
          simp only [Bool.or_eq_true, beq_iff_eq] at hb
          rcases hb with (hb | hb) | hb
          · exact Or.inl hb
          · exact Or.inr (Or.inl hb)
          · exact Or.inr (Or.inr hb)
        · exact hbl j h1 (by omega)
      · cases h

/- non-vacuity: `'a'⏎y` — at offset 4 (the `y`) the blanks before it hold the line feed; at offset 3 of `1 +2` they do not -/
example : lineBreakBefore (DS.Props.C16.envOf #[39, 97, 39, 10, 121] 0 (fun _ => 0)) 4 = true := by decide
example : lineBreakBefore (DS.Props.C16.envOf #[49, 32, 43, 50] 0 (fun _ => 0)) 3 = false := by decide

end DS.Props.C03
